import Hub.Model.Acl
import Hub.Generated.Acl
/-!
# C16 — no request is served beyond what the caller's token and ACL grant

The loop of `IsGranted` decides exactly `GrantSpec` (`isGranted_iff`); the decision theorems follow from that.
-/
namespace Hub.C16
open Hub.Acl

/-- the specification of an ACL decision: some applicable allow entry, and no applicable deny. -/
def GrantSpec (acl : List Ac) (path needed : String) : Prop :=
  (∃ ac ∈ acl, applies ac path needed = true ∧ ac.deny = false)
  ∧ (∀ ac ∈ acl, ac.deny = true → applies ac path needed = false)

theorem checkGranted_eq (ac : Ac) (path needed : String) :
    checkGranted ac path needed = (applies ac path needed && !ac.deny) := by
  unfold checkGranted applies resourceMatch
  -- both blocks return `!ac.deny`
  generalize (ac.resource == path) = a, covers ac.action needed = c
  cases a <;> cases c <;> simp

theorem isGrantedLoop_iff (path needed : String) (acl : List Ac) (g : Bool) :
    isGrantedLoop path needed acl g = true ↔
      ((g = true ∨ ∃ ac ∈ acl, applies ac path needed = true ∧ ac.deny = false)
       ∧ (∀ ac ∈ acl, ac.deny = true → applies ac path needed = false)) := by
  induction acl generalizing g with
  | nil => simp [isGrantedLoop]
  | cons ac rest ih =>
    have hap : applies { ac with deny := false } path needed = applies ac path needed := rfl
    simp only [isGrantedLoop, checkGranted_eq, List.mem_cons, forall_eq_or_imp, exists_eq_or_imp, hap]
    cases applies ac path needed
    · simp [ih]
    · cases ac.deny <;> simp [ih]

theorem isGranted_iff (acl : List Ac) (path needed : String) :
    isGranted acl path needed = true ↔ GrantSpec acl path needed := by
  simp [isGranted, isGrantedLoop_iff, GrantSpec]

/-- T-C16-1 (ACL decision): a non-admin request is allowed iff some entry grants the path (exactly or by trailing-* prefix)
for the needed action and no applicable entry denies it; every method except GET/HEAD/OPTIONS needs write. -/
theorem acl_decision (method path : String) (acl : List Ac) :
    doAclCheck method path false acl = true ↔ GrantSpec acl path (actionFor method) :=
  isGranted_iff acl path (actionFor method)

/-- an explicit deny entry is never overridden by an allow, wherever it stands in the list. -/
theorem deny_overrides (method path : String) (acl : List Ac) (d : Ac) (hd : d ∈ acl)
    (hdeny : d.deny = true) (happ : applies d path (actionFor method) = true) :
    doAclCheck method path false acl = false :=
  Bool.eq_false_iff.2 fun h => by
    have := ((acl_decision method path acl).1 h).2 d hd hdeny
    rw [happ] at this; cases this

/-- read never suffices for a mutation: with only read entries no state-changing method is served. -/
theorem read_never_mutates (method path : String) (acl : List Ac)
    (hm : method ≠ "GET" ∧ method ≠ "HEAD" ∧ method ≠ "OPTIONS")
    (hr : ∀ ac ∈ acl, ac.action = "read") :
    doAclCheck method path false acl = false := by
  refine Bool.eq_false_iff.2 fun h => ?_
  obtain ⟨⟨ac, hac, happ, _⟩, _⟩ := (acl_decision method path acl).1 h
  simp [applies, covers, actionFor, hm, hr ac hac] at happ

theorem empty_acl_denied (method path : String) : doAclCheck method path false [] = false := rfl

theorem claimOK_some {c : String} {accepted : List String} (h : claimOK (some c) accepted = true) : c ∈ accepted := by
  obtain ⟨a, ha, hc⟩ := List.any_eq_true.1 h
  exact beq_iff_eq.1 hc ▸ ha

/-- T-C16-2 (authentication decision): an accepted token is correctly signed (node key or, when configured, a JWKS key),
unexpired, RS256, and its audience and issuer, when present, are among the accepted ones. -/
theorem authn_decision (c : Cfg) (t : Tok) (h : validate c t = true) :
    (t.sigNode = true ∨ (c.jwks = true ∧ t.sigJwks = true)) ∧ t.claimsValid = true ∧ t.alg = "RS256"
    ∧ (∀ a, t.aud = some a → a ∈ c.audiences) ∧ (∀ i, t.iss = some i → i ∈ c.issuers) := by
  simp only [validate, Bool.and_eq_true, Bool.or_eq_true, beq_iff_eq] at h
  -- `h`: parsed (by either key, with valid claims), audience ok, issuer ok, algorithm
  obtain ⟨⟨⟨hparsed, haud⟩, hiss⟩, halg⟩ := h
  refine ⟨?_, ?_, halg, fun a ha => ?_, fun i hi => ?_⟩
  · rcases hparsed with ⟨hnode, _⟩ | ⟨⟨hjwks, hsig⟩, _⟩
    · exact .inl hnode
    · exact .inr ⟨hjwks, hsig⟩
  · rcases hparsed with ⟨_, hvalid⟩ | ⟨_, hvalid⟩ <;> exact hvalid
  · rw [ha] at haud; exact claimOK_some haud
  · rw [hi] at hiss; exact claimOK_some hiss

/-- T-C16-5 (dataset list filter): each dataset at most once, and only if read is granted. -/
theorem dataset_list_filter (names : List String) (acl : List Ac) (hn : names.Nodup) :
    (filterDatasets names acl).Nodup
    ∧ ∀ n ∈ filterDatasets names acl, n ∈ names ∧ GrantSpec acl ("/datasets/" ++ n) "read" :=
  ⟨hn.filter _, fun _ hmem => (List.mem_filter.1 hmem).imp_right (isGranted_iff _ _ _).1⟩

/-- the two files hold what the two maps hold -/
def Mirror (s : Sec) : Prop := s.diskClients = s.mem.clients ∧ s.diskAcls = s.mem.acls

theorem mirror_step (s : Sec) (h : Mirror s) : ∀ op, Mirror (s.step op)
  | .register _ => ⟨rfl, h.2⟩
  | .unregister _ | .restart => ⟨rfl, rfl⟩
  | .setAcl .. | .delAcl _ => ⟨h.1, rfl⟩

/-- T-C16-4 (registrations and ACLs survive a restart unchanged), after any history of operations and restarts. -/
theorem persist (ops : List SecOp) :
    let s := ops.foldl Sec.step {}
    (s.step .restart).mem = s.mem := by
  obtain ⟨h1, h2⟩ : Mirror (ops.foldl Sec.step {}) :=
    List.foldlRecOn ops _ ⟨rfl, rfl⟩ fun s h op _ => mirror_step s h op
  simp only [Sec.step, h1, h2]

open Hub.Facts.Acl in
/-- the middleware's decision and needed action (`doAclCheck`, `actionFor`), the loop of `IsGranted` and the tests of
`CheckGranted` (`isGrantedLoop`, `checkGranted`), the checks of `validate`, who rewrites the two files (`Sec.step`). -/
theorem facts_shape :
    readMethods = ["http.MethodGet", "http.MethodHead", "http.MethodOptions"]
    ∧ defaultAction = "\"write\"" ∧ readAction = "\"read\""
    ∧ adminShortCircuit = ["role == \"admin\""]
    ∧ decisionCall = ["core.IsGranted(acl, path, action)"]
    ∧ Hub.Facts.Acl.isGrantedLoop = ["if ac == nil { continue }",
        "if serviceCore.CheckGranted(ac, resource, action) { granted = true } else if ac.Deny { allow := &AccessControl{Resource: ac.Resource, Action: ac.Action} if serviceCore.CheckGranted(allow, resource, action) { return false } }"]
    ∧ isGrantedReturn = "return granted"
    ∧ checkGrantedConds = ["ac.Resource == resource", "action == \"read\" && (ac.Action == \"read\" || ac.Action == \"write\")",
        "action == ac.Action", "strings.HasSuffix(ac.Resource, \"*\")", "strings.HasPrefix(resource, pattern)",
        "action == \"read\" && (ac.Action == \"read\" || ac.Action == \"write\")", "action == ac.Action"]
    ∧ checkGrantedReturns = ["return !ac.Deny", "return !ac.Deny", "return !ac.Deny", "return !ac.Deny", "return false"]
    ∧ skipperPrefixes = ["\"/health\"", "mimiroIcon", "favIcon", "\"/api\"", "\"/static\"", "\"/security/token\""]
    ∧ validateErrAssigns = ["errors.New(\"invalid audience\")", "errors.New(\"invalid issuer\")", "errors.New(\"non matching signing method\")"]
    ∧ validateChecks = ["!checkAud", "!checkIss", "!checkSigningMethod"]
    ∧ aclsWriters = ["DeleteClientAccessControls:GetAllAccessControls", "SetClientAccessControls:GetAllAccessControls"]
    ∧ clientsWriters = ["RegisterClient:GetClients"]
    ∧ unregisterCalls = ["serviceCore.clients.Delete(clientInfo.ClientID)", "serviceCore.DeleteClientAccessControls(clientInfo.ClientID)"] := ⟨rfl, rfl, rfl, rfl, rfl, rfl, rfl, rfl, rfl, rfl, rfl, rfl, rfl, rfl, rfl⟩

example : doAclCheck "GET" "/datasets/a/changes" false [⟨"/datasets/a*", "read", false⟩] = true := by decide +kernel
example : doAclCheck "PUT" "/job/x/run" false [⟨"/job*", "read", false⟩] = false := by decide +kernel
example : doAclCheck "GET" "/datasets/a" false [⟨"/datasets/a", "read", true⟩, ⟨"/*", "write", false⟩] = false := by decide +kernel

/-! ## negative witnesses for the pinned commit (D15, D16; fixed) -/
theorem cur_put_needs_only_read :
    doAclCheckCur "PUT" "/job/x/run" false [⟨"/job*", "read", false⟩] = true := by decide +kernel
theorem cur_deny_overridden :
    doAclCheckCur "GET" "/datasets/a" false [⟨"/datasets/a", "read", true⟩, ⟨"/*", "write", false⟩] = true := by decide +kernel

end Hub.C16
