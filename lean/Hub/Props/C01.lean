import Hub.Proofs.ListPaging
import Hub.Proofs.StoreInv
import Hub.Proofs.Lookup
import Hub.Proofs.TxnRefine
import Hub.Generated.Layout
/-!
# C01 — the latest view equals the last stored version of every entity

The write path refines the version-history specification: an element, a batch, a transaction, every history. Under that
invariant the readers — current version, listing and its paging, lookups — see the last stored versions.
Model: `Hub/Model/Store.lean`.
-/
namespace Hub.C01
open Hub.Store Hub.StoreInv

/-- T-C01-5a (the write path refines the specification, every batch): for every state satisfying
the invariant and every batch — any length, repeated ids, delete/un-delete flips — committed later
than everything in its dataset, versions, latest pointers, change log and counters follow `specFrom`. -/
theorem refinement {db : DB} {S : Spec} (h : Inv db S) (ds t : Nat)
    (hfresh : ∀ v ∈ db.versions, v.1.ds = ds → v.1.t < t) (b : List Ent) :
    Inv (storeBatch db ds t b) (specFrom ds t 0 b S) := inv_storeBatch h ds t hfresh b []

theorem refinement_init : Inv {} {} := inv_empty

/-- T-C01-5b (no silent drop): an element is dropped iff it is identical to the version it would
replace (the in-batch predecessor if there is one, else the stored latest); otherwise it becomes
the new last version. -/
theorem no_silent_drop (S : Spec) (ds t i : Nat) (e : Ent) :
    (specOne ds t S (i, e)).vers ds e.rid =
      if lastEnt (S.vers ds e.rid) = some e then S.vers ds e.rid else S.vers ds e.rid ++ [⟨t, i, e⟩] := by
  rw [specOne_vers]
  by_cases h : lastEnt (S.vers ds e.rid) = some e <;> simp [h]

/-- … and after the element the last version of its entity is the element, always. -/
theorem last_is_written (S : Spec) (ds t i : Nat) (e : Ent) :
    lastEnt ((specOne ds t S (i, e)).vers ds e.rid) = some e := by
  rw [no_silent_drop]
  split
  · assumption
  · exact lastEnt_append _ _

/-- other entities and other datasets are untouched by an element. -/
theorem others_untouched (S : Spec) (ds t i : Nat) (e : Ent) (d j : Nat) (h : ¬ (d = ds ∧ j = e.rid)) :
    (specOne ds t S (i, e)).vers d j = S.vers d j := by
  rw [specOne_vers, if_neg fun h' => h ⟨h'.1, h'.2.1⟩]

open Hub.TxnRefine in
/-- T-C01-5c (a transaction is its batches, at one instant): `ExecuteTransaction` lets every dataset's write loop read the
snapshot taken before the transaction. With one part per dataset (the request is a map), committed later than everything in
its datasets, the result is exactly that of its per-dataset batches one after the other at the same commit time. -/
theorem txn_refinement {db : DB} {S : Spec} (h : Inv db S) (t : Nat) (parts : List (Nat × List Ent))
    (hd : (parts.map (·.1)).Nodup) (hfresh : ∀ p ∈ parts, ∀ v ∈ db.versions, v.1.ds = p.1 → v.1.t < t) :
    execTxn db t parts = batches db t parts ∧ Inv (execTxn db t parts) (specTxn t parts S) :=
  txn_refines db S h t parts hd hfresh

open Hub.TxnRefine in
/-- T-C01-5d (every reachable state, transactions included): from the empty store, after any history of transactions and
batches with increasing commit times, the store satisfies the invariant against the specification of that history. -/
theorem refinement_history_txn (h : List (Nat × List (Nat × List Ent))) (hinc : h.Pairwise (fun a b => a.1 < b.1))
    (hd : ∀ w ∈ h, (w.2.map (·.1)).Nodup) : Inv (runTxns h {}) (specTxns h {}) :=
  inv_reachable h hinc hd

/-- a batch is the transaction with one part. -/
theorem batch_is_txn (db : DB) (ds t : Nat) (b : List Ent) : execTxn db t [(ds, b)] = storeBatch db ds t b := rfl

open Hub.Facts.Layout in
/-- the premises of `txn_refinement` in the Go source: the request is a *map* from dataset name to entities (`Nodup`);
one badger transaction and one commit time go to every part's write loop. -/
theorem facts_txn_shape :
    txnPartsType = "map[string][]*Entity" ∧ txnWriteArgs = ["entities, txnTime, txn"]
    ∧ txnSnapshots = ["s.database.NewTransaction"] := ⟨rfl, rfl, rfl⟩

-- non-vacuity: a transaction over two datasets after a batch
open Hub.TxnRefine in
example : let e : Ent := ⟨1, false, [], "a", []⟩;
    let d : Ent := ⟨1, true, [], "a", []⟩
    let h := [(10, [(2, [e])]), (20, [(2, [d, e, d]), (3, [e, e])])]
    h.Pairwise (fun a b => a.1 < b.1) ∧ (∀ w ∈ h, (w.2.map (·.1)).Nodup) ∧ ((runTxns h {}).versions.map (·.1.t)) = [10, 20, 20, 20, 20] := by decide +kernel

/-- a history of batches `(dataset, commit time, entities)` applied to the store … -/
def runHist (h : List (Nat × Nat × List Ent)) (db : DB) : DB := h.foldl (fun db w => storeBatch db w.1 w.2.1 w.2.2) db
/-- … and to the specification. -/
def specHist (h : List (Nat × Nat × List Ent)) (S : Spec) : Spec := h.foldl (fun S w => specFrom w.1 w.2.1 0 w.2.2 S) S

/-- T-C01-5e (every reachable state, batches only): from the empty store, after any history of batches whose commit times
increase (they are taken from the clock under the dataset lock, `facts_shape`), the store satisfies the invariant against
the specification of that history. -/
theorem refinement_history (h : List (Nat × Nat × List Ent)) (hinc : h.Pairwise (fun a b => a.2.1 < b.2.1)) :
    Inv (runHist h {}) (specHist h {}) := by
  -- the history of the one-part transactions of the batches (`batch_is_txn`)
  have := refinement_history_txn (h.map fun w => (w.2.1, [(w.1, w.2.2)])) (List.pairwise_map.2 hinc)
    fun w hw => by obtain ⟨_, _, rfl⟩ := List.mem_map.1 hw; simp
  rwa [Hub.TxnRefine.runTxns, Hub.TxnRefine.specTxns, List.foldl_map, List.foldl_map] at this

-- non-vacuity: three batches over two datasets
example : let e : Ent := ⟨1, false, [], "a", []⟩;
    let d : Ent := ⟨1, true, [], "a", []⟩
    let h := [(2, 10, [e, e, d]), (3, 15, [e]), (2, 20, [d, e])]
    h.Pairwise (fun a b => a.2.1 < b.2.1) ∧ (runHist h {}).versions.length = 4 := by decide +kernel

/-- T-C01-3 (the current version): what the write path — and every reader that follows the latest
pointer: listing, latest-only feed — resolves as the stored version of (dataset, id) is the last
accepted version. -/
theorem stored_is_last {db : DB} {S : Spec} (h : Inv db S) (ds id : Nat) :
    db.stored ds id = lastEnt (S.vers ds id) := stored_eq_last h.v ds id

/-- T-C01-1 (listing = latest view): an entity is in the listing of a dataset iff it is the last
accepted version of its id there — every stored id, deleted or not. -/
theorem listing_eq_latest {db : DB} {S : Spec} (h : Inv db S) (ds rid : Nat) (e : Ent) :
    (rid, e) ∈ listAll db ds ↔ lastEnt (S.vers ds rid) = some e := by
  rw [Hub.ListPaging.mem_listAll h.v.latNodup, stored_is_last h]

theorem listing_incr {db : DB} {S : Spec} (h : Inv db S) (ds : Nat) : Hub.ListPaging.Incr (listAll db ds) :=
  Hub.ListPaging.listAll_incr h.v.latNodup ds

/-- T-C01-1' (each entity exactly once): the listing has no id twice. -/
theorem listing_once {db : DB} {S : Spec} (h : Inv db S) (ds : Nat) : ((listAll db ds).map (·.1)).Nodup :=
  List.pairwise_map.2 ((listing_incr h ds).imp Nat.ne_of_lt)

/-- **T-C01-2 (paged listing)**: in every state reached through the write path, reading a dataset's entities with any
list of page sizes (each ≥ 1) by following the continuation tokens, and then reading the rest, returns exactly the
listing — the last version of every stored id, each exactly once, none missing. -/
theorem listing_paged {db : DB} {S : Spec} (h : Inv db S) (ds : Nat) (cs : List Nat) (hcs : ∀ c ∈ cs, 0 < c) :
    (Hub.ListPaging.pages db ds none (cs ++ [0])).flatten = (listAll db ds).map (·.2) :=
  Hub.ListPaging.pages_tile (listing_incr h ds) cs (A := []) rfl

/-- **T-C01-6 (what a lookup merges)**: for every store state with unique version keys, every
entity, instant and scope, the live partials a lookup merges are exactly the versions `p` that (1) are visible —
of this entity, recorded at or before the instant, in a dataset that is not deleted and in scope —, (2) are not
deleted and (3) are the newest visible version of their dataset. -/
theorem lookup_partials_spec (db : DB) (hk : (db.versions.map (·.1)).Nodup) (rid at_ : Nat) (scope : List Nat) (p : VKey × Ent) :
    p ∈ (partialsAt db rid at_ scope).1 ↔
      p ∈ visibleVersions db rid at_ scope ∧ p.2.deleted = false
      ∧ ∀ q ∈ visibleVersions db rid at_ scope, q.1.ds = p.1.ds → p.1.lt q.1 = false := by
  unfold partialsAt
  simp only [List.mem_filter, Bool.not_eq_true', Hub.Lookup.mem_lastPerDs (Hub.Lookup.visible_sorted db hk rid at_ scope)]
  exact ⟨fun ⟨⟨hv, hnew⟩, hd⟩ => ⟨hv, hd, hnew⟩, fun ⟨hv, hd, hnew⟩ => ⟨⟨hv, hnew⟩, hd⟩⟩

/-- `Inv` provides the hypothesis of `lookup_partials_spec`. -/
theorem lookup_partials_of_inv {db : DB} {S : Spec} (h : Inv db S) : (db.versions.map (·.1)).Nodup := h.v.nodup

-- non-vacuity: entity 1 in datasets 2 and 3, deleted in 3 by instant 25
example : let a : Ent := ⟨1, false, [], "1", []⟩;
    let b : Ent := ⟨1, false, [], "2", []⟩;
    let d : Ent := ⟨1, true, [], "2", []⟩
    let db := storeBatch (storeBatch (storeBatch (storeBatch {} 2 10 [a]) 2 20 [b]) 3 15 [a]) 3 22 [d]
    (partialsAt db 1 25 []).1.map (·.1.t) = [20] ∧ (partialsAt db 1 21 []).1.map (·.1.t) = [20, 15] ∧ (partialsAt db 1 25 []).2 = true := by decide +kernel

/-- T-C01-8 (one partial per dataset): whatever the history, instant and scope, a lookup never merges two
versions of the same dataset. -/
theorem lookup_one_partial_per_dataset (db : DB) (hk : (db.versions.map (·.1)).Nodup) (rid at_ : Nat) (scope : List Nat)
    (p q : VKey × Ent) (hp : p ∈ (partialsAt db rid at_ scope).1) (hq : q ∈ (partialsAt db rid at_ scope).1)
    (hds : p.1.ds = q.1.ds) : p = q := by
  obtain ⟨hpv, _, hpn⟩ := (lookup_partials_spec db hk rid at_ scope p).1 hp
  obtain ⟨hqv, _, hqn⟩ := (lookup_partials_spec db hk rid at_ scope q).1 hq
  have hkey : p.1 = q.1 := Hub.Lookup.lt_total _ _ (hpn q hqv hds.symm) (hqn p hpv hds)
  exact Hub.Assoc.eq_of_nodup_map hk (Hub.Lookup.mem_visible.1 hpv).1 (Hub.Lookup.mem_visible.1 hqv).1 hkey

/-- T-C01-9 (a superseded version contributes nothing): a version with a newer visible version of the same dataset —
live or deleted — is not merged. -/
theorem lookup_superseded_invisible (db : DB) (hk : (db.versions.map (·.1)).Nodup) (rid at_ : Nat) (scope : List Nat)
    (p q : VKey × Ent) (hq : q ∈ visibleVersions db rid at_ scope) (hds : q.1.ds = p.1.ds) (hlt : p.1.lt q.1 = true) :
    p ∉ (partialsAt db rid at_ scope).1 := fun hp =>
  Bool.noConfusion (hlt.symm.trans (((lookup_partials_spec db hk rid at_ scope p).1 hp).2.2 q hq hds))

/-- T-C01-10 (what a merged version is): it is a stored version of this entity, recorded at or before the instant, live,
of a dataset that is not deleted and — for a scoped lookup — in scope. -/
theorem lookup_partial_sound (db : DB) (hk : (db.versions.map (·.1)).Nodup) (rid at_ : Nat) (scope : List Nat)
    (p : VKey × Ent) (hp : p ∈ (partialsAt db rid at_ scope).1) :
    p ∈ db.versions ∧ p.1.rid = rid ∧ p.1.t ≤ at_ ∧ p.2.deleted = false ∧ p.1.ds ∉ db.deletedDs ∧ (scope = [] ∨ p.1.ds ∈ scope) := by
  -- a partial is one of the visible versions the scan kept
  have hp' := List.mem_filter.1 hp
  obtain ⟨h1, h2, h3, h4, h5⟩ := Hub.Lookup.mem_visible.1 ((Hub.Lookup.lastPerDs_sublist _).subset hp'.1)
  exact ⟨h1, h2, h3, by simpa using hp'.2, h4, h5⟩

/-- T-C01-11 (completeness per dataset): a dataset whose newest visible version of the entity is live contributes exactly
that version — a lookup cannot lose a dataset's live state. -/
theorem lookup_newest_live_returned (db : DB) (hk : (db.versions.map (·.1)).Nodup) (rid at_ : Nat) (scope : List Nat)
    (p : VKey × Ent) (hv : p ∈ visibleVersions db rid at_ scope) (hlive : p.2.deleted = false)
    (hnew : ∀ q ∈ visibleVersions db rid at_ scope, q.1.ds = p.1.ds → p.1.lt q.1 = false) :
    p ∈ (partialsAt db rid at_ scope).1 :=
  (lookup_partials_spec db hk rid at_ scope p).2 ⟨hv, hlive, hnew⟩

-- non-vacuity: two datasets, a scoped and an unscoped lookup
example : let a : Ent := ⟨1, false, [], "1", []⟩;
    let b : Ent := ⟨1, false, [], "2", []⟩
    let db := storeBatch (storeBatch (storeBatch {} 2 10 [a]) 2 20 [b]) 3 15 [a]
    (partialsAt db 1 25 [2]).1.map (·.1.t) = [20] ∧ (partialsAt db 1 25 []).1.map (·.1.ds) = [2, 3]
    ∧ (db.versions.map (·.1)).Nodup := by decide +kernel

-- non-vacuity: a batch with a repeated id, an identical re-post, and a delete/un-delete flip
example : let e : Ent := ⟨1, false, [], "a", []⟩;
    let d : Ent := ⟨1, true, [], "a", []⟩
    let db := storeBatch (storeBatch {} 2 10 [e, e, d]) 2 20 [d, e]
    (listAll db 2) = [(1, e)] ∧ db.versions.length = 3 ∧ (listPage db 2 none 1).2 = some 1
    ∧ (listPage db 2 (some 1) 1) = ([], some 1) := by decide +kernel

open Hub.Facts.Layout in
/-- what the model takes from dataset.go and store.go: the key layouts, whose big-endian fields in this order are `VKey.lt` and the
listing's rid order; the skip test and its base (`writeOne` skips what is identical to `prevOf`, which prefers `localLatests`); the
listing's prefix seek, its `Seek(from)` + `Next()` and limit test (`listPage`); the fields and skips of the lookup scan (`visibleVersions`). -/
theorem facts_shape :
    entityKey = [("EntityIDToJSONIndexID", 0, 16), ("rid", 2, 64), ("ds.InternalID", 10, 32), ("uint64(txnTime)", 14, 64), ("uint16(batchSeqNum)", 22, 16)]
    ∧ latestKey = [("DatasetLatestEntities", 0, 16), ("ds.InternalID", 2, 32), ("rid", 6, 64)]
    ∧ skipCond = ["!isnew && !isDifferent && !isDifferentLocally"]
    ∧ localSupersedes = ["true", "false", "isDifferentLocally"]
    ∧ listSeek = [("DatasetLatestEntities", 0, 16), ("ds.InternalID", 2, 32)]
    ∧ listSkipToken = ["from != \"\""] ∧ listLimitTest = ["taken == count"]
    ∧ lookupReads = ["binary.BigEndian.Uint64(key[14:])", "binary.BigEndian.Uint32(key[10:])"]
    ∧ lookupTimeSkip = ["at < recordedTime", "datasetDeleted || !datasetIncluded"]
    -- commit times are taken under the dataset lock(s)
    ∧ storeSteps = ["ds.WriteLock.Lock", "time.Sleep", "time.Now().UnixNano", "ds.StoreEntitiesWithTransaction", "ds.store.commitIDTxn", "txn.Commit", "ds.updateDataset"]
    ∧ txnSteps = ["sort.Strings", "dataset.(*Dataset).WriteLock.Lock", "time.Now().UnixNano", "ds.StoreEntitiesWithTransaction", "s.commitIDTxn", "txn.Commit", "ds.(*Dataset).updateDataset"] := ⟨rfl, rfl, rfl, rfl, rfl, rfl, rfl, rfl, rfl, rfl, rfl⟩

end Hub.C01
