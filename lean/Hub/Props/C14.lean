import Hub.Props.C13
import Hub.Props.C16
import Hub.Props.C19
import Hub.Generated.Restart
/-!
# C14 — stopping and starting the hub is observably a no-op

The mirrored state (`Mem`, `Hub`, `step`) and its property theorems: the hub writes every piece of state through to disk
inside the operation that changes it, `reopen` reloads it. The store's data lives only in badger (no in-memory copy); the
correspondence exercises it with a reopen at random positions.
-/
namespace Hub.C14
open Hub.Acl Hub.Namespace Hub.Registry

/-- in-memory state with an on-disk mirror, and what it is reloaded from. -/
structure Mem where
  ns : NS                      -- namespace maps            ⇐ NamespacesIndex "namespacestate"
  reg : Reg                    -- dataset registry, next id, deleted set ⇐ SysDatasetsID records, StoreNextDatasetIDBytes, "deleteddatasets"
  sec : SecMem                 -- clients, ACLs             ⇐ clients.json, acls.json
  jobs : List (String × Bool)  -- job id ↦ paused flag     ⇐ JobConfigIndex
  tokens : List (String × String)  -- job id ↦ continuation token ⇐ JobDataIndex

/-- memory and its disk mirror. Write-through inside every mutating operation is read off the code (`facts_shape`) and
built into `step`; `mirror` then holds by construction. -/
structure Hub where
  mem : Mem
  disk : Mem

inductive Op
  | assertNs (e : Str)
  | reg (o : Registry.Op)
  | sec (o : SecOp)
  | jobSet (id : String) (paused : Bool)
  | jobDel (id : String)
  | token (id : String) (t : String)
  | reopen

def setKV (k : String) (v : β) (l : List (String × β)) : List (String × β) := (k, v) :: l.filter (·.1 != k)

def stepMem (m : Mem) : Op → Mem
  | .assertNs e => { m with ns := (m.ns.assert e).1 }
  | .reg o => { m with reg := Registry.step m.reg o }
  -- C16's `Sec.step`, run on disk copies equal to memory (`mirror`); only its memory part is kept
  | .sec o => { m with sec := ((({ mem := m.sec, diskClients := m.sec.clients, diskAcls := m.sec.acls } : Sec).step o).mem) }
  | .jobSet id p => { m with jobs := setKV id p m.jobs }
  | .jobDel id => { m with jobs := m.jobs.filter (·.1 != id), tokens := m.tokens }   -- `runner.deleteJob` removes the configuration only
  | .token id t => { m with tokens := setKV id t m.tokens }
  | .reopen => m

def step (h : Hub) : Op → Hub
  | .reopen => { h with mem := h.disk }
  | o => let m := stepMem h.mem o; { mem := m, disk := m }

def run (ops : List Op) (h : Hub) : Hub := ops.foldl step h

/-- T-C14-1 (restart is a no-op): after any history of operations with restarts anywhere, memory equals its disk mirror — so
one more restart changes nothing, and the history without its restarts ends in the same state. -/
theorem mirror (ops : List Op) (h : Hub) (h0 : h.disk = h.mem) : (run ops h).disk = (run ops h).mem :=
  List.foldlRecOn (motive := fun h => h.disk = h.mem) ops step h0 fun _ _ o _ => by cases o <;> rfl

theorem restart_noop (ops : List Op) (h : Hub) (h0 : h.disk = h.mem) :
    (step (run ops h) .reopen).mem = (run ops h).mem := mirror ops h h0

/-- T-C14-2 (writes after a restart behave as if it had not happened): identifiers and dataset ids stay fresh across
restarts, namespace prefixes are permanent, client registrations and ACLs survive. -/
theorem continue_after_restart :
    (∀ (s : Ids) (h : Hub.C13.IdWF s) (ops : List Hub.C13.IdOp), Hub.C13.IdWF (ops.foldl Hub.C13.idStep s))
    ∧ (∀ ops : List Registry.Op, ((Registry.run ops).live.map (·.2)).Nodup)
    ∧ (∀ ops : List SecOp, ((ops.foldl Sec.step {}).step .restart).mem = (ops.foldl Sec.step {}).mem) :=
  ⟨fun s h ops => (Hub.C13.id_permanent s h ops).1, fun ops => (Hub.C19.fresh_ids ops).2.1, fun ops => Hub.C16.persist ops⟩

/-- the retry delay (ns) of the n-th incarnation: verification scales seconds to nanoseconds, the stored form scales back. -/
def incarnate (secs : Nat) : Nat → Nat
  | 0 => secs * 1000000000
  | n + 1 => (incarnate secs n / 1000000000) * 1000000000

/-- the retry delay survives store + load + verify any number of times (D25: the stored form was the scaled value, so
every incarnation multiplied it by 10⁹ again). -/
theorem retry_delay_stable (secs n : Nat) : incarnate secs n = secs * 1000000000 := by
  induction n with
  | zero => rfl
  | succ n ih => simp [incarnate, ih]

/-- …and within int64 for every configured delay below 292 years, so the Go arithmetic is the Nat arithmetic. -/
theorem retry_delay_in_range (secs : Nat) (h : secs < 9223372036) : secs * 1000000000 < 2 ^ 63 := by omega

open Hub.Facts.Restart in
/-- what `step` and `incarnate` take from the code: what `Store.Open`, `ServiceCore.Init` and the scheduler reload on start,
that job and namespace writes go through inside the operation, how the retry delay is scaled and stored. -/
theorem facts_shape :
    openLoads = ["s.readValue(StoreNextDatasetIDBytes)", "s.loadDatasets()", "s.GetObject(NamespacesIndex, \"namespacestate\", nsState)",
        "s.GetObject(StoreMetaIndex, \"deleteddatasets\", &s.deletedDatasets)", "s.database.GetSequence(key, numEntities)"]
    ∧ closeReleases = ["s.idseq.Release()", "s.database.Close()"]
    ∧ initLoads = ["serviceCore.loadClients()", "serviceCore.loadAcls()"]
    ∧ jobWrites = ["AddJob:s.Store.StoreObject(server.JobConfigIndex, jobConfig.ID, storedForm(jobConfig))"]
    ∧ retryDelayScaling = ["30", "int64(time.Second) * eh.RetryDelay", "c.RetryDelay / int64(time.Second)"]
    ∧ jobLoadsOnStart = ["s.loadConfigurations()"]
    ∧ nsWriteThrough = true := ⟨rfl, rfl, rfl, rfl, rfl, rfl, rfl⟩

end Hub.C14
