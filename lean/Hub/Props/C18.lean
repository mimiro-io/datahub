import Hub.Proofs.MultiSource
import Hub.Proofs.Assoc
import Hub.Model.Pipeline
import Hub.Generated.MultiSource
/-!
# C18 — dependency tracking re-emits every affected main entity

For ANY relation `rel` the join loop follows: what comes out of it is what is reachable along the joins (`Reach`), it depends on
`rel` only as a set, a pass emits only main entities and moves each token once, and the dependency built from a registered
chain of hops (`Fwd`) leads back to the main entity. No theorem here instantiates `rel`.
-/
namespace Hub.C18
open Hub.Multi Hub.Store

/-- `x` is reached from `s` along the joins: the relational image composed hop by hop; the first hop, when it
is not inverse, may also use the graph as it stood at the previous run (`prevAt`). -/
inductive Reach (rel : Rel) (predId : String → Option Nat) (dsId : String → Option Nat) (now : Nat) (prevAt : Option Nat) :
    Nat → String → Nat → List Join → Nat → Prop
  | done (idx : Nat) (prevDs : String) (s : Nat) : Reach rel predId dsId now prevAt idx prevDs s [] s
  | hop (idx : Nat) (prevDs : String) (s : Nat) (j : Join) (rest : List Join) (p m x : Nat)
      (hp : predId j.pred = some p)
      (hm : m ∈ rel s p j.inv ([prevDs, j.ds].filterMap dsId) now ∨
            (idx = 0 ∧ j.inv = false ∧ ∃ t, prevAt = some t ∧ m ∈ rel s p false ([prevDs, j.ds].filterMap dsId) t))
      (hr : Reach rel predId dsId now prevAt (idx + 1) j.ds m rest x) :
      Reach rel predId dsId now prevAt idx prevDs s (j :: rest) x

/-- **chain image** (T-C18-1): the ids that come out of the join loop are exactly those reachable from one of
the changed entities along the declared joins. -/
theorem chainFrom_mem (rel : Rel) (predId dsId now prevAt) :
    ∀ (joins : List Join) (idx : Nat) (prevDs : String) (starts : List Nat) (x : Nat),
      x ∈ chainFrom rel predId dsId now prevAt idx prevDs starts joins ↔
        ∃ s ∈ starts, Reach rel predId dsId now prevAt idx prevDs s joins x := by
  intro joins
  induction joins with
  | nil =>
    intro idx prevDs starts x
    constructor
    · exact fun h => ⟨x, h, .done _ _ _⟩
    · rintro ⟨s, hs, hr⟩
      cases hr
      exact hs
  | cons j rest ih =>
    intro idx prevDs starts x
    unfold chainFrom
    cases hp : predId j.pred with
    | none =>
      -- an unknown predicate: nothing comes out, and no path starts with `j`
      rw [ih]
      constructor
      · rintro ⟨_, h, _⟩
        cases h
      · rintro ⟨s, _, hr⟩
        cases hr with
        | hop _ _ _ _ _ p m _ hp' _ _ => cases hp.symm.trans hp'
    | some p =>
      -- what is reached from the starts over `j` (`mem_hop`) are the new starts for `rest`
      rw [ih]
      constructor
      · rintro ⟨m, hm, hr⟩
        obtain ⟨s, hs, hm⟩ := List.mem_flatMap.1 (List.mem_eraseDups.1 hm)
        exact ⟨s, hs, .hop _ _ _ _ _ p m x hp (mem_hop.1 hm) hr⟩
      · rintro ⟨s, hs, hr⟩
        cases hr with
        | hop _ _ _ _ _ p' m _ hp' hm hr' =>
          cases hp.symm.trans hp'
          exact ⟨m, List.mem_eraseDups.2 (List.mem_flatMap.2 ⟨s, hs, mem_hop.2 hm⟩), hr'⟩

theorem chainFrom_nil_starts {rel : Rel} {predId dsId : String → Option Nat} {now : Nat} {prevAt : Option Nat} {joins : List Join}
    {idx : Nat} {prevDs : String} :
    chainFrom rel predId dsId now prevAt idx prevDs [] joins = [] :=
  List.eq_nil_iff_forall_not_mem.2 fun x h => by
    obtain ⟨_, hs, _⟩ := (chainFrom_mem rel predId dsId now prevAt joins idx prevDs [] x).1 h
    cases hs

theorem mem_chain {rel : Rel} {predId dsId : String → Option Nat} {now : Nat} {prevAt : Option Nat} {dep : Dep} {starts : List Nat} {x : Nat} :
    x ∈ chain rel predId dsId now prevAt dep starts ↔
      dep.joins ≠ [] ∧ ∃ s ∈ starts, Reach rel predId dsId now prevAt 0 dep.ds s dep.joins x := by
  unfold chain
  split
  · rename_i he
    exact ⟨nofun, fun h => absurd (List.isEmpty_iff.1 he) h.1⟩
  · rename_i he
    rw [chainFrom_mem]
    exact (and_iff_right fun h => he (List.isEmpty_iff.2 h)).symm

theorem reach_congr {rel1 rel2 : Rel} (h : ∀ s p inv scope t x, x ∈ rel1 s p inv scope t ↔ x ∈ rel2 s p inv scope t)
    {predId dsId : String → Option Nat} {now : Nat} {prevAt : Option Nat} {idx : Nat} {prevDs : String} {s : Nat}
    {joins : List Join} {x : Nat} :
    Reach rel1 predId dsId now prevAt idx prevDs s joins x → Reach rel2 predId dsId now prevAt idx prevDs s joins x := by
  intro hr
  induction hr with
  | done => exact .done _ _ _
  | hop idx prevDs s j rest p m x hp hm _ ih =>
    refine .hop _ _ _ _ _ p m x hp ?_ ih
    rcases hm with hm | ⟨h0, hi, t, ht, hm⟩
    · exact Or.inl ((h _ _ _ _ _ _).1 hm)
    · exact Or.inr ⟨h0, hi, t, ht, (h _ _ _ _ _ _).1 hm⟩

/-- **the chain depends on the relation only as a set**: two relations with the same members (say, the paged
index scan and the graph of the latest versions) give chains with the same members. -/
theorem chain_congr {rel1 rel2 : Rel} (h : ∀ s p inv scope t x, x ∈ rel1 s p inv scope t ↔ x ∈ rel2 s p inv scope t)
    (predId dsId now prevAt) (dep : Dep) (starts : List Nat) (x : Nat) :
    x ∈ chain rel1 predId dsId now prevAt dep starts ↔ x ∈ chain rel2 predId dsId now prevAt dep starts := by
  rw [mem_chain, mem_chain]
  exact and_congr_right fun _ =>
    ⟨fun ⟨s, hs, hr⟩ => ⟨s, hs, reach_congr h hr⟩,
     fun ⟨s, hs, hr⟩ => ⟨s, hs, reach_congr (fun a b c d e f => (h a b c d e f).symm) hr⟩⟩

/-- **completeness of one window**: every id reachable from a changed entity along the joins comes out. -/
theorem window_complete (rel : Rel) (predId dsId now prevAt) (dep : Dep) (hj : dep.joins ≠ []) (starts : List Nat) (s x : Nat)
    (hs : s ∈ starts) (hr : Reach rel predId dsId now prevAt 0 dep.ds s dep.joins x) :
    x ∈ chain rel predId dsId now prevAt dep starts :=
  mem_chain.2 ⟨hj, s, hs, hr⟩

/-- **emitted entities come from the main dataset** (T-C18-4) and **the dependency token moves to the end of the
window that was processed** (T-C18-3, one dependency): the token afterwards is the continuation of the page read from the old one. -/
theorem depsPass_single (rel : Rel) (db : DB) (predId dsId) (cfg : Cfg) (now : Nat) (dep : Dep) (tok : Tok) (dd mainId : Nat)
    (hd : dsId dep.ds = some dd) (hm : dsId cfg.main = some mainId) :
    let r := depsPass rel db predId dsId cfg now [dep] tok [] []
    (∀ e ∈ r.1, mainLive db mainId e now = true)
    ∧ r.2.dep dep.ds = some (changesPage db dd ((tok.dep dep.ds).getD 0) cfg.batch cfg.latestOnly).2 := by
  simp only [depsPass, hd, hm]
  constructor
  · intro e he
    exact (List.mem_filter.1 he).2
  · simp only [Tok.dep, Tok.setDep]
    exact Hub.Assoc.lookup_setAssoc_self _ _ _

/-- everything emitted by a whole pass (any number of dependencies) has a live version in the main dataset. -/
theorem depsPass_main_origin (rel : Rel) (db : DB) (predId dsId) (cfg : Cfg) (now : Nat) (mainId : Nat)
    (hm : dsId cfg.main = some mainId) :
    ∀ (deps : List Dep) (tok : Tok) (cache : List (String × (List Nat × Nat))) (acc : List Nat),
      (∀ e ∈ acc, mainLive db mainId e now = true) →
      ∀ e ∈ (depsPass rel db predId dsId cfg now deps tok cache acc).1, mainLive db mainId e now = true :=
  fun deps tok cache acc =>
    depsPass_inv (P := fun r => ∀ e ∈ r.1, mainLive db mainId e now = true) deps tok cache acc
      (fun hm' h e he => by
        cases hm.symm.trans hm'
        rcases List.mem_append.1 he with he | he
        · exact h e he
        · exact (List.mem_filter.1 he).2)
      (fun _ h => h)

/-- **a dataset's token is held while a dependency on it is still to come**: when several dependencies watch the same
dataset (they share the cached page of changes), processing one that is not the last leaves the token as it was, so a run
interrupted there starts the whole page again (defect D33 was the token moving with the first of them). -/
theorem depsPass_token_held (rel : Rel) (db : DB) (predId dsId) (cfg : Cfg) (now : Nat) (dep : Dep) (rest : List Dep)
    (tok : Tok) (cache : List (String × (List Nat × Nat))) (acc : List Nat)
    (h : rest.any (·.ds == dep.ds) = true) :
    ∃ cache' acc', depsPass rel db predId dsId cfg now (dep :: rest) tok cache acc
      = depsPass rel db predId dsId cfg now rest tok cache' acc' ∨
      depsPass rel db predId dsId cfg now (dep :: rest) tok cache acc = (acc, tok) := by
  rw [depsPass]
  cases dsId dep.ds with
  | none => exact ⟨cache, acc, .inr rfl⟩
  | some dd =>
    cases dsId cfg.main with
    | none => exact ⟨cache, acc, .inr rfl⟩
    | some mainId =>
      exact ⟨_, _, .inl (by rw [h]; rfl)⟩

/-- a pass never touches the token of a dataset no dependency watches, nor the main token. -/
theorem depsPass_tok_frame (rel : Rel) (db : DB) (predId dsId) (cfg : Cfg) (now : Nat) (ds : String) :
    ∀ (deps : List Dep) (tok : Tok) (cache : List (String × (List Nat × Nat))) (acc : List Nat),
      (∀ d ∈ deps, d.ds ≠ ds) →
      (depsPass rel db predId dsId cfg now deps tok cache acc).2.dep ds = tok.dep ds
      ∧ (depsPass rel db predId dsId cfg now deps tok cache acc).2.main = tok.main :=
  fun deps tok cache acc hne =>
    depsPass_inv (P := fun r => r.2.dep ds = tok.dep ds ∧ r.2.main = tok.main) deps tok cache acc (fun _ h => h)
      (fun hd h => ⟨(Hub.Assoc.lookup_setAssoc_ne _ _ (hne _ hd).symm _).trans h.1, h.2⟩) ⟨rfl, rfl⟩

/-- a forward path of hops from an entity of dataset `from`: hop `h` follows `h.pred` (inverse or not) into `h.ds`. -/
inductive Fwd (rel : Rel) (predId : String → Option Nat) (dsId : String → Option Nat) (now : Nat) :
    String → Nat → List Hop → Nat → Prop
  | done (from_ : String) (x : Nat) : Fwd rel predId dsId now from_ x [] x
  | hop (from_ : String) (x : Nat) (h : Hop) (rest : List Hop) (p m y : Nat)
      (hp : predId h.pred = some p)
      (hm : m ∈ rel x p h.inv ([from_, h.ds].filterMap dsId) now)
      (hr : Fwd rel predId dsId now h.ds m rest y) : Fwd rel predId dsId now from_ x (h :: rest) y

/- generalised over a continuation `tail`, which collects the hops already turned round -/
theorem reach_revJoins {rel : Rel} {predId dsId : String → Option Nat} {now : Nat} {prevAt : Option Nat}
    (hsym : ∀ s p inv a b t m, m ∈ rel s p inv ([a, b].filterMap dsId) t → s ∈ rel m p (!inv) ([b, a].filterMap dsId) t)
    {from_ : String} {x y : Nat} {hops : List Hop} (hf : Fwd rel predId dsId now from_ x hops y) :
    ∀ (tail : List Join) (z : Nat), (∀ i, Reach rel predId dsId now prevAt i from_ x tail z) →
      ∀ i, Reach rel predId dsId now prevAt i (lastHopDs from_ hops) y (revJoins from_ hops ++ tail) z := by
  induction hf with
  | done from_ x => exact fun _ _ h => h
  | hop from_ x h rest p m y hp hm _ ih =>
    intro tail z ht
    rw [revJoins, List.append_assoc]
    exact ih _ z fun i => .hop _ _ _ _ _ p x z hp (.inl (hsym _ _ _ _ _ _ _ hm)) (ht (i + 1))

/-- **T-C18-5 (registered queries are tracked)**: let the relation be symmetric under transposition (`m` is related to `s`
through `p` in one direction iff `s` is related to `m` in the other). If the transform can get from a main entity `x` to an
entity `y` by a chain of hops it registered, the dependency the builder derives from that chain leads from `y` back to `x`. -/
theorem reverseHops_reaches (rel : Rel) (predId dsId) (now : Nat) (prevAt : Option Nat)
    (hsym : ∀ s p inv a b t m, m ∈ rel s p inv ([a, b].filterMap dsId) t → s ∈ rel m p (!inv) ([b, a].filterMap dsId) t)
    (main : String) (hops : List Hop) (hne : hops ≠ []) (x y : Nat) (hf : Fwd rel predId dsId now main x hops y) :
    ∃ dep, reverseHops main hops = some dep ∧ dep.joins ≠ [] ∧ Reach rel predId dsId now prevAt 0 dep.ds y dep.joins x := by
  refine ⟨_, reverseHops_eq main hops hne, ?_, ?_⟩
  · cases hops with
    | nil => exact absurd rfl hne
    | cons h rest => simp [revJoins]
  · simpa using reach_revJoins hsym hf [] x (fun _ => .done _ _ _) 0

/-- **the dependency list the builder produces** (T-C18-5): no two dependencies with the same dataset and joins; every
declared dependency is kept; and every intermediate join dataset other than the main one gets a dependency with the
remaining joins (so a change in a link dataset is tracked as well). -/
theorem buildDeps_spec (main : String) (declared : List Dep) :
    ((buildDeps main declared).map depKey).Nodup
    ∧ (∀ d ∈ declared, ∃ d' ∈ buildDeps main declared, depKey d' = depKey d)
    ∧ (∀ d ∈ declared, ∀ (i : Nat) (j : Join), d.joins[i]? = some j → j.ds ≠ main →
        ∃ d' ∈ buildDeps main declared, depKey d' = depKey { ds := j.ds, joins := d.joins.drop (i + 1) }) := by
  -- nothing has been seen at the start, so every key of the list handed to `dedupDeps` survives
  have key : ∀ d ∈ declared ++ declared.flatMap (implicitOf main), ∃ d' ∈ buildDeps main declared, depKey d' = depKey d :=
    fun d hd => List.mem_map.1 ((mem_keys_dedupDeps _ _ _).2 ⟨List.mem_map_of_mem hd, List.not_mem_nil⟩)
  refine ⟨dedupDeps_nodup _ _, fun d hd => key d (List.mem_append_left _ hd), fun d hd i j hj hne => ?_⟩
  refine key _ (List.mem_append_right _ (List.mem_flatMap.2 ⟨d, hd, List.mem_map.2 ⟨(j, i), ?_, rfl⟩⟩))
  exact List.mem_filter.2 ⟨List.mem_zipIdx_iff_getElem?.2 (by simpa using hj), by simpa using hne⟩

-- the builder's own test: product ← order ← person, declared in JSON and through track_queries
example :
    buildDeps "person" ([{ ds := "product", joins := [⟨"order", "ordered", true⟩, ⟨"person", "ordering", false⟩] }]
        ++ ([[⟨"order", "ordering", true⟩, ⟨"product", "ordered", false⟩]] : List (List Hop)).filterMap (reverseHops "person"))
      = [{ ds := "product", joins := [⟨"order", "ordered", true⟩, ⟨"person", "ordering", false⟩] },
         { ds := "order", joins := [⟨"person", "ordering", false⟩] }] := by decide +kernel

-- non-vacuity of Reach: a two-hop chain over a concrete relation
example : (7 : Nat) ∈ chain (fun s p inv _ _ => if s = 1 ∧ p = 10 ∧ inv then [2] else if s = 2 ∧ p = 11 ∧ !inv then [7] else [])
    (fun p => if p = "p" then some 10 else if p = "q" then some 11 else none) (fun _ => some 1) 100 none
    { ds := "b", joins := [⟨"c", "p", true⟩, ⟨"a", "q", false⟩] } [1] := by decide

open Hub.Facts.MultiSource Hub.Pipe in
/-- dependencies are processed before the main dataset's page and only outside a full sync; a dependency's token is advanced
after the join loop and before the final emission, only by the last dependency on that dataset; the back-dated query is made
for the first join when it is not inverse and a previous window exists; the candidate is looked up in the main dataset; the
page of changes is cached per dataset. -/
theorem facts_multisource :
    proj ["if !multiSource.isFullSync {", "multiSource.processDependency", "} else {", "set d.activeDS = \"\"", "multiSource.incrementalRead"] skeleton_ReadEntities
      = ["if !multiSource.isFullSync {", "multiSource.processDependency", "} else {", "set d.activeDS = \"\"", "multiSource.incrementalRead"]
    ∧ proj ["multiSource.findChanges", "multiSource.Store.GetPredicateID", "multiSource.Store.GetRelatedAtTime", "if idx == 0 && !join.Inverse {",
            "if depSince.AsIncrToken() > 0 {", "set since = depSince.AsIncrToken() - 1", "depDataset.GetChanges", "set prevRelatedFrom.At = timestamp",
            "multiSource.Store.GetEntityWithInternalID", "processEntities", "if advanceToken {",
            "set d.DependencyTokens[dep.Dataset] = &StringDatasetContinuation{Token: strconv.Itoa(int(continuation))}"] skeleton_processDependency
      = ["multiSource.findChanges", "multiSource.Store.GetPredicateID", "multiSource.Store.GetRelatedAtTime", "if idx == 0 && !join.Inverse {",
         "if depSince.AsIncrToken() > 0 {", "set since = depSince.AsIncrToken() - 1", "depDataset.GetChanges", "set prevRelatedFrom.At = timestamp",
         "multiSource.Store.GetRelatedAtTime", "multiSource.Store.GetEntityWithInternalID", "processEntities", "if advanceToken {",
         "set d.DependencyTokens[dep.Dataset] = &StringDatasetContinuation{Token: strconv.Itoa(int(continuation))}", "processEntities"]
    ∧ lastOfDataset = ["range multiSource.Dependencies", "range multiSource.Dependencies[i+1:]", "if later.Dataset == dep.Dataset",
        "call(ctx, dep, d, batchSize, lastOfDataset, processEntities)", "range multiSource.waterMarks"]
    ∧ proj ["set lastOfDataset = true", "if later.Dataset == dep.Dataset {", "set lastOfDataset = false", "multiSource.processDependency"] skeleton_ReadEntities
      = ["set lastOfDataset = true", "if later.Dataset == dep.Dataset {", "set lastOfDataset = false", "multiSource.processDependency"]
    ∧ skeleton_findChanges = ["if ok {", "return", "}", "depDataset.ProcessChanges", "set multiSource.changesCache[depDataset.ID] = changeURIData{ids, continuation}", "return"]
    ∧ skeleton_incrementalRead = ["dataset.ProcessChanges", "ret-on-err", "set d.MainToken = strconv.Itoa()", "processEntities", "ret-on-err", "return"]
    ∧ skeleton_StartFullSync = ["set multiSource.isFullSync = true", "multiSource.grabWatermarks"]
    ∧ skeleton_EndFullSync = ["set multiSource.isFullSync = false"]
    ∧ watermarkIfs = ["item == nil || !bytes.HasPrefix(item.Key(), searchBuffer[:6])"]
    ∧ readArgs = ["processDependency: multiSource.Store.GetRelatedAtTime(nextRelatedFrom, batchSize)",
        "processDependency: depDataset.GetChanges(since, 1, false)",
        "processDependency: multiSource.Store.GetRelatedAtTime(prevRelatedFrom, batchSize)",
        "processDependency: multiSource.Store.GetEntityWithInternalID(e, targetDs, true)",
        "findChanges: depDataset.ProcessChanges(depSince.AsIncrToken(), batchSize, multiSource.LatestOnly, func)",
        "incrementalRead: dataset.ProcessChanges(since.AsIncrToken(), batchSize, multiSource.LatestOnly, func)"] := ⟨by simp [proj, skeleton_ReadEntities], by simp [proj, skeleton_processDependency], rfl, by simp [proj, skeleton_ReadEntities], rfl, rfl, rfl, rfl, rfl, rfl⟩

end Hub.C18
