import Hub.Proofs.IdTxn
import Hub.Generated.IdTxn
/-!
# Identifiers under concurrent writers (C13, C04, C05)

Property theorems about `Hub.IdTxn`: every interleaving of writers, rejected batches and process deaths, at the granularity
of the two critical sections the code has (`assertIDForURI`, `commitIDTxn`, both under `idmux`).
-/
namespace Hub.IdTxnProps
open Hub.IdTxn

/-- **acknowledged ⇒ durable**: whatever the other writers do, and whenever the process dies, the identifiers an
acknowledged batch refers to are in the durable identifier table. -/
theorem acked_ids_durable (l : List Step) :
    ∀ x ∈ (run false {} l).ws, x.pc = .acked → ∀ p ∈ x.mine, p ∈ (run false {} l).durable :=
  fun x hx hp p hpm => (inv_run l {} inv_init).safe x hx (.inr hp) p hpm

/-- **one identifier per URI, race-free**: at every moment the identifier table (committed and uncommitted part) is a
function and injective, and any two writers still alive agree on the identifier of every URI both have drawn: two racing
batches that introduce the same URI store it under one identifier. -/
theorem one_id_per_uri (l : List Step) :
    let s := run false {} l
    (∀ p ∈ s.pending ++ s.durable, ∀ q ∈ s.pending ++ s.durable, p.1 = q.1 ↔ p.2 = q.2)
    ∧ (∀ x ∈ s.ws, ∀ y ∈ s.ws, x.pc ≠ .gone → y.pc ≠ .gone → ∀ p ∈ x.mine, ∀ q ∈ y.mine, p.1 = q.1 → p.2 = q.2) := by
  have h := inv_run l {} inv_init
  exact ⟨(inv_iff.1 h).2.2, fun x hx y hy => h.agree hx hy⟩

/-- identifiers are never reused, also across process deaths (the sequence only moves forward). -/
theorem ids_below_next (l : List Step) : ∀ p ∈ (run false {} l).pending ++ (run false {} l).durable, p.2 < (run false {} l).next :=
  (inv_run l {} inv_init).below

-- non-vacuity: two writers introduce URI 7 concurrently, one commits the shared transaction, both are acknowledged
example : let s := run false {} [.start, .start, .assign 0 7, .assign 1 7, .assign 1 8, .commitIds 1, .commitData 1, .commitIds 0, .commitData 0]
    s.ws.map (·.pc) = [.acked, .acked] ∧ s.durable = [(8, 2), (7, 1)] ∧ s.ws.map (·.mine) = [[(7, 1)], [(8, 2), (7, 1)]] := by decide

-- a rejected batch must leave the rolling transaction alone: discarded, the other writer's identifiers are gone
-- although its batch is acknowledged
example : let s := run true {} [.start, .start, .assign 0 7, .assign 1 9, .reject 1, .commitIds 0, .commitData 0]
    s.ws.map (·.pc) = [.acked, .gone] ∧ (7, 1) ∉ s.durable := by decide

open Hub.Facts.IdTxn in
/-- Only `assertIDForURI` and `commitIDTxn` touch the rolling transaction, both under `idmux` and on the owner's transaction
(one per database); look-up precedes assignment in one critical section, commit and reset are in one; the writers call
`commitIDTxn` after filling and before `txn.Commit`. -/
theorem facts_shape :
    users = [".NewContextualStore:idmux", ".NewContextualStore:init-idmux", ".NewStore:init-idmux", "Store.assertIDForURI:idmux", "Store.assertIDForURI:idtxn", "Store.commitIDTxn:idmux", "Store.commitIDTxn:idtxn"]
    ∧ skeleton_assert = ["set isnew = false", "if uri == \"\" {", "return", "}", "if exists {", "return", "}", "s.idmux.Lock", "defer {", "s.idmux.Unlock", "}", "set o = s.idTxnOwner()", "if o.idtxn == nil {", "s.database.NewTransaction", "set o.idtxn = s.database.NewTransaction()", "}", "o.idtxn.Get", "if err != nil {", "if err == badger.ErrKeyNotFound {", "s.idseq.Next", "o.idtxn.Set", "ret-on-err", "o.idtxn.Set", "ret-on-err", "set isnew = true", "}", "} else {", "func {", "return", "}", "ret-on-err", "}", "set localTxnCache[uri] = rid", "return"]
    ∧ skeleton_commit = ["s.idmux.Lock", "defer {", "s.idmux.Unlock", "}", "set o = s.idTxnOwner()", "if o.idtxn == nil {", "return", "}", "o.idtxn.Commit", "ret-on-err", "set o.idtxn = nil", "return"]
    ∧ owner = ["if s.idowner != nil { return s.idowner }", "return s"]
    ∧ ownerInit = ["idseq: store.idseq", "idowner: store.idTxnOwner()", "idmux: store.idmux"]
    ∧ writer_StoreEntities = ["if len(entities) == 0 {", "return", "}", "defer {", "txn.Discard", "}", "ds.StoreEntitiesWithTransaction", "ret-on-err", "ds.store.commitIDTxn", "ret-on-err", "txn.Commit", "ret-on-err", "ret-on-err", "return"]
    ∧ writer_ExecuteTransaction = ["for {", "if !ok {", "return", "}", "}", "defer {", "txn.Discard", "}", "for {", "ds.StoreEntitiesWithTransaction", "ret-on-err", "}", "s.commitIDTxn", "ret-on-err", "txn.Commit", "ret-on-err", "for {", "if !ok {", "return", "}", "ret-on-err", "}", "return"] := ⟨rfl, rfl, rfl, rfl, rfl, rfl, rfl⟩

end Hub.IdTxnProps
