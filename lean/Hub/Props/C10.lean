import Hub.Model.Partition
import Hub.Generated.Partition
/-!
# C10 — every source entity reaches the transform exactly once, for any batching

Model: `Hub/Model/Partition.lean`. Worker `i` gets `ps` entities from `i * ps` on, such slices tile a prefix, and
`workers * psize` reaches the end.
-/
namespace Hub.C10
open Hub.Partition

theorem slice_bound (xs : List α) (ps i : Nat) :
    slice xs (bound xs.length ps i) = (xs.drop (i * ps)).take ps := by
  simp only [slice, bound]
  rcases Nat.le_total (i * ps + ps) xs.length with h | h
  · rw [Nat.min_eq_left h, Nat.min_eq_left (Nat.le_trans (Nat.le_add_right ..) h), Nat.add_sub_cancel_left]
  · -- the slice reaches the end: both sides are all of `xs.drop (i * ps)`
    rw [Nat.min_eq_right h, List.take_of_length_le (by simp), List.take_of_length_le (by simp; omega)]
    rcases Nat.le_total (i * ps) xs.length with h' | h'
    · rw [Nat.min_eq_left h']
    · rw [Nat.min_eq_right h', List.drop_eq_nil_of_le h', List.drop_eq_nil_of_le (Nat.le_refl _)]

theorem flatten_slices (xs : List α) (ps k : Nat) :
    ((List.range k).map fun i => (xs.drop (i * ps)).take ps).flatten = xs.take (k * ps) := by
  induction k with
  | zero => simp
  | succ k ih => simp [List.range_succ, ih, Nat.succ_mul, List.take_add]

theorem workers_pos (n : Nat) (p : Int) : 0 < workers n p := by
  unfold workers; split <;> omega

/-- `psize` is a ceiling division. -/
theorem le_mul_psize (n : Nat) {par : Nat} (h : 0 < par) : n ≤ par * psize n par := by
  have := Nat.div_add_mod (n + par - 1) par
  have := Nat.mod_lt (n + par - 1) h
  rw [psize]; omega

/-- T-C10-1: for every entity list and every configured parallelism (any integer, including
≤ 0 and > length) the chunks handed to the workers concatenate to the input: every entity is in
exactly one chunk, in source order. -/
theorem chunks_partition (xs : List α) (p : Int) : (chunks xs p).flatten = xs := by
  simp only [chunks, chunkBounds, List.map_map, Function.comp_def, slice_bound, flatten_slices]
  exact List.take_of_length_le (le_mul_psize _ (workers_pos ..))

/-- every bound is a well-formed slice (`from ≤ to ≤ n`): `make([]*Entity, to-from)` cannot panic. -/
theorem bounds_wellformed (n : Nat) (p : Int) :
    ∀ b ∈ chunkBounds n p, b.1 ≤ b.2 ∧ b.2 ≤ n := by
  intro b hb
  obtain ⟨i, _, rfl⟩ := List.mem_map.1 hb
  simp only [bound]; omega

theorem parTransform_of_flatten (g : List α → List β) (hg : ∀ cs : List (List α), (cs.map g).flatten = g cs.flatten)
    (xs : List α) (p : Int) : parTransform g xs p = g xs := by
  rw [parTransform, hg, chunks_partition]

/-- T-C10-2: for a per-entity transform `f` (returning, dropping, duplicating or creating
entities), the parallel run equals the sequential one: exactly once, results in source order. -/
theorem parallel_eq_sequential (f : α → List β) (xs : List α) (p : Int) :
    parTransform (fun c => c.flatMap f) xs p = xs.flatMap f :=
  parTransform_of_flatten _ (fun cs => by
    rw [← List.flatMap_def, ← List.flatMap_assoc (f := fun c => c), List.flatMap_id']) xs p

/-- T-C10-3: an identity transform makes the transform stage the identity on every batch. -/
theorem identity_is_copy (xs : List α) (p : Int) :
    parTransform (fun c => c) xs p = xs :=
  parTransform_of_flatten _ (fun cs => by rw [List.map_id']) xs p

theorem chunks_total_length (xs : List α) (p : Int) :
    ((chunks xs p).map List.length).sum = xs.length := by
  have := congrArg List.length (chunks_partition xs p)
  rwa [List.length_flatten] at this

/-! ## tie to the Go source: the arithmetic factgen extracts from `IncrementalPipeline.sync` computes the model's functions -/

theorem facts_workers (n : Nat) (p : Int) :
    Hub.Facts.Partition.workers p n = (workers n p : Int) := by
  unfold Hub.Facts.Partition.workers workers
  by_cases hg : p < 1 ∨ (n : Int) < p
  · simp [hg]
  · -- the guard fails, so `1 ≤ p` and the cast of `p.toNat` is `p`
    have hp : ((p.toNat : Nat) : Int) = p := Int.toNat_of_nonneg (by omega)
    simp [hg, hp]

theorem facts_psize (n par : Nat) (h : 0 < par) :
    Hub.Facts.Partition.psize n par = (psize n par : Int) := by
  unfold Hub.Facts.Partition.psize psize
  have : ((n : Int) + (par : Int) - 1) = ((n + par - 1 : Nat) : Int) := by omega
  rw [this]
  exact (Int.natCast_ediv _ _).symm

/-- `if a > n { a = n }` on Go's ints is `min` on the naturals. -/
theorem clip_cast (a n : Nat) : (if (n : Int) < a then (n : Int) else a) = ((min a n : Nat) : Int) := by
  split <;> omega

theorem facts_bound (n ps i : Nat) :
    Hub.Facts.Partition.bound ((i * ps : Nat) : Int) ps n
      = (((bound n ps i).1 : Int), ((bound n ps i).2 : Int)) := by
  unfold Hub.Facts.Partition.bound bound
  simp only [decide_eq_true_eq, ← Int.natCast_add, clip_cast]

/-- loop skeleton: `for i := 0; i < parallelisms; i++ { …; index += psize }`, results joined by
worker index. -/
theorem facts_loop_shape :
    Hub.Facts.Partition.indexAdvance = "index += psize" ∧ Hub.Facts.Partition.loopCond = "i < parallelisms"
    ∧ Hub.Facts.Partition.loopInit = "i := 0" ∧ Hub.Facts.Partition.joinOrder = "byWorkerIndex"
    ∧ Hub.Facts.Partition.chunkStmts = ["chunk := make([]*server.Entity, to-from)", "copy(chunk, entities[from:to])", "go local(wid, chunk, &wg)"]
    ∧ Hub.Facts.Partition.readLoopStop = ["len(entities)", "incomingEntityCount == 0 || continuationToken.GetToken() == \"\"",
        "len(entities)", "incomingEntityCount == 0 || continuationToken.GetToken() == \"\""] := ⟨rfl, rfl, rfl, rfl, rfl, rfl⟩

-- non-vacuity: 14 entities, 10 workers (the D7 input)
example : chunks (List.range 14) 10 =
    [[0,1],[2,3],[4,5],[6,7],[8,9],[10,11],[12,13],[],[],[]] := by decide
example : chunkBounds 15 10 = [(0,2),(2,4),(4,6),(6,8),(8,10),(10,12),(12,14),(14,15),(15,15),(15,15)] := by decide

/-! ## `chunksCur` (defect D7: `math.Round`, only the upper bound clipped) drops the tail or asks `make` for a negative length -/
theorem cur_drops_tail : (chunksCur (List.range 14) 10).map List.flatten = some (List.range 10) := by decide
theorem cur_panics : chunksCur (List.range 15) 10 = none := by decide
theorem cur_drops_9_4 : (chunksCur (List.range 9) 4).map List.flatten = some (List.range 8) := by decide

end Hub.C10
