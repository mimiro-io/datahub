import Hub.Proofs.Backup
import Hub.Generated.BackupFacts
/-!
# C20 — a backup contains everything committed before it ran

Property theorems over `Hub/Model/Backup.lean` (badger as a versioned log); `runCursorFromDb` is what the code avoids.
-/
namespace Hub.C20
open Hub.Backup

/-- the cursor never moves backwards, whatever the log looks like (an empty dump reports 0). -/
theorem cursor_monotone (m : Mgr) (l : Log) : m.cursor ≤ (run m l).cursor := by
  unfold run; simp only; split <;> omega

/-- a run only appends to the backup file (an existing file is never truncated or rewritten). -/
theorem run_appends (m : Mgr) (l : Log) : ∃ d, (run m l).file = m.file ++ d := ⟨_, rfl⟩

/-- what a run appends: exactly the entries at or after the cursor that are the newest of their key. -/
theorem dump_exact (l : Log) (since : Nat) (v : Nat) (e : Entry) :
    (v, e) ∈ backup l since ↔ (since ≤ v ∧ l[v]? = some e ∧ isNewest l v e = true) := mem_backup

/-- backups at arbitrary points of an arbitrary further history, from any state whose file is sound and full (e.g. after a
restart: cursor and file are read back from the backup location): restoring gives, for every key, the value committed
before the last run started. -/
theorem restore_after_more_runs (m : Mgr) (l : Log) (h : Inv m l) (ds : List Log) (k : Nat) :
    loadOf (runs m l ds).1.file k = stateOf (runs m l ds).2 k :=
  have h' := inv_runs ds m l h
  restore_of_sound_full h'.sound h'.full k

/-- **the property**: backups at arbitrary points of an arbitrary history (`ds` = the writes — stores, overwrites,
deletes — between consecutive runs, any of them empty); restoring the file gives, for every key, exactly the value
committed before the last run started: nothing missing, nothing stale, deletes included. New hub, empty location. -/
theorem restore_eq_snapshot (ds : List Log) (k : Nat) :
    loadOf (runs {} [] ds).1.file k = stateOf (runs {} [] ds).2 k :=
  restore_after_more_runs {} [] inv_init ds k

/-- a cursor that moved backwards only makes the next increment larger; a cursor AHEAD of what the file holds loses
data — shown on a concrete history. -/
theorem cursor_ahead_loses_data :
    let l : Log := [(1, some 10), (2, some 20)]
    let m : Mgr := { file := [], cursor := 1 }
    loadOf (run m l).file 1 ≠ stateOf l 1 := by decide +kernel

/-- **commits while a run is streaming**: a run dumps the snapshot taken when it started (`l ++ d1`); what is committed
while it streams (`d2`) has larger versions and is picked up by the next run — after that run the restored hub equals
the source as it stood when that run started. -/
theorem overlapped_then_quiet (m : Mgr) (l : Log) (h : Inv m l) (d1 d2 : Log) (k : Nat) :
    loadOf (run (run m (l ++ d1)) (l ++ d1 ++ d2)).file k = stateOf (l ++ d1 ++ d2) k :=
  restore_after_more_runs m l h [d1, d2] k

/-- a run that takes its cursor from the database's newest version when it returns (the log has grown to `full`) — NOT
what the code does. -/
def runCursorFromDb (m : Mgr) (snap full : Log) : Mgr :=
  { file := m.file ++ backup snap m.cursor, cursor := full.length - 1 }

/-- why the cursor must come from the dump: with the cursor taken from the database, a key committed while the run streamed
is in no dump — the next (quiet) run starts behind it. -/
theorem cursor_from_db_loses_overlapped_commit :
    let snap : Log := [(1, some 10)]
    let full : Log := [(1, some 10), (2, some 20), (3, some 30)]
    let m := run (runCursorFromDb {} snap full) full
    loadOf m.file 2 ≠ stateOf full 2 ∧ loadOf (run (run {} snap) full).file 2 = stateOf full 2 := by decide +kernel

open Hub.Facts.BackupFacts in
theorem facts_shape :
    openMode = ["os.OpenFile(backupFilename, os.O_APPEND|os.O_WRONLY|os.O_CREATE, 0o600)"]
    ∧ backupCall = ["backupManager.store.database.Backup(file, backupManager.lastID)"]
    ∧ cursorUpdate = ["since > backupManager.lastID"]
    ∧ cursorFiles = ["StoreLastID:\"datahub-backup.lastseen\"", "LoadLastID:\"datahub-backup.lastseen\""]
    ∧ cursorEncoding = ["binary.LittleEndian.PutUint64(data, backupManager.lastID)", "binary.LittleEndian.Uint64(data)"]
    ∧ errorsChecked = 2
    ∧ locationGuard = ["else(backupManager.validLocation())"]
    ∧ idCompare = "return dhID == buDhID" := ⟨rfl, rfl, rfl, rfl, rfl, rfl, rfl, rfl⟩

-- two runs with writes, a delete and an overwrite in between
example :
    let l1 : Log := [(1, some 10), (2, some 20), (1, some 11)]
    let l2 : Log := l1 ++ [(2, none), (3, some 30), (1, some 12)]
    let m1 := run {} l1
    let m2 := run m1 l2
    (∀ k ∈ [1, 2, 3, 4], loadOf m1.file k = stateOf l1 k) ∧ (∀ k ∈ [1, 2, 3, 4], loadOf m2.file k = stateOf l2 k)
    ∧ m1.cursor = 2 ∧ m2.cursor = 5 ∧ (run m2 l2).cursor = 5 := by decide +kernel

end Hub.C20
