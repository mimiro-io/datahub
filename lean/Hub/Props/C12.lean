import Hub.Proofs.Assoc
import Hub.Generated.Compact
/-!
# C12 — compaction is invisible to readers

A list-level model of the deduplicating strategy (`dedupAdj`) and its property theorems: what a reader can see is unchanged
by one removal (`DropDup`), hence by any number of them (`Partial`), and the complete compaction is one such sequence.
-/
namespace Hub.C12
open Hub.Store

/-- versions of one entity in one dataset, oldest first: (time, content). -/
abbrev Ver := Nat × Ent

/-- what compaction keeps: a version is dropped iff its content equals the last kept one. -/
def dedupFrom (prev : Ent) : List Ver → List Ver
  | [] => []
  | v :: vs => if v.2 = prev then dedupFrom prev vs else v :: dedupFrom v.2 vs

/-- the list-level counterpart of `Hub.Store.compact` (`compactFrom`) on the versions of one entity. -/
def dedupAdj : List Ver → List Ver
  | [] => []
  | v :: vs => v :: dedupFrom v.2 vs

def lastC : Ent → List Ver → Ent
  | d, [] => d
  | _, v :: vs => lastC v.2 vs

/-- the content of the newest version: what `DB.stored`, the listing and the latest-only feed show. -/
def lastContent : List Ver → Option Ent
  | [] => none
  | v :: vs => some (lastC v.2 vs)

/-- the history as a lookup pinned to the instant `t` sees it. -/
def upTo (t : Nat) (l : List Ver) : List Ver := l.filter (fun v => decide (v.1 ≤ t))

/-- one removal of the compactor: a version whose content equals its immediate predecessor's is dropped. -/
inductive DropDup : List Ver → List Ver → Prop
  | here (a b : Ver) (l : List Ver) (h : b.2 = a.2) : DropDup (a :: b :: l) (a :: l)
  | there (a : Ver) (l l' : List Ver) (h : DropDup l l') : DropDup (a :: l) (a :: l')

/-- any number of removals: the state a compaction leaves when it is killed after some of its flushes. -/
inductive Partial : List Ver → List Ver → Prop
  | refl (l : List Ver) : Partial l l
  | step (l l' l'' : List Ver) (h : DropDup l l') (t : Partial l' l'') : Partial l l''

theorem lastC_congr (d e : Ent) (l : List Ver) (h : l ≠ []) : lastC d l = lastC e l := by
  cases l with
  | nil => exact absurd rfl h
  | cons v vs => rfl

theorem lastContent_cons (a : Ver) (l : List Ver) : lastContent (a :: l) = some ((lastContent l).getD a.2) := by
  cases l <;> rfl

theorem dropDup_sublist {l l' : List Ver} (h : DropDup l l') : l'.Sublist l := by
  induction h with
  | here a b l _ => exact (List.Sublist.cons _ (List.Sublist.refl _)).cons_cons _
  | there a l l' _ ih => exact ih.cons_cons _

theorem dropDup_lastContent {l l' : List Ver} (h : DropDup l l') : lastContent l' = lastContent l := by
  induction h with
  | here a b l hb => simp [lastContent_cons, hb]
  | there a l l' _ ih => simp [lastContent_cons, ih]

theorem dropDup_dedupFrom {l l' : List Ver} (h : DropDup l l') (prev : Ent) : dedupFrom prev l' = dedupFrom prev l := by
  induction h generalizing prev with
  | here a b l hb => by_cases ha : a.2 = prev <;> simp [dedupFrom, ha, hb]
  | there a l l' _ ih => simp only [dedupFrom, ih]

theorem dropDup_dedupAdj {l l' : List Ver} (h : DropDup l l') : dedupAdj l' = dedupAdj l := by
  cases h with
  | here a b l hb => simp [dedupAdj, dedupFrom, hb]
  | there a l l' h => simp only [dedupAdj, dropDup_dedupFrom h]

theorem partial_trans {l l' l'' : List Ver} (h : Partial l l') (h2 : Partial l' l'') : Partial l l'' := by
  induction h with
  | refl l => exact h2
  | step l l1 l2 hd _ ih => exact .step _ _ _ hd (ih h2)

theorem partial_cons {l l' : List Ver} (h : Partial l l') (a : Ver) : Partial (a :: l) (a :: l') := by
  induction h with
  | refl l => exact .refl _
  | step l l1 l2 hd _ ih => exact .step _ _ _ (.there a _ _ hd) ih

theorem partial_invisible {l l' : List Ver} (h : Partial l l') :
    l'.Sublist l ∧ lastContent l' = lastContent l ∧ dedupAdj l' = dedupAdj l := by
  induction h with
  | refl l => exact ⟨.refl _, rfl, rfl⟩
  | step l l1 l2 hd _ ih =>
    exact ⟨ih.1.trans (dropDup_sublist hd), ih.2.1.trans (dropDup_lastContent hd), ih.2.2.trans (dropDup_dedupAdj hd)⟩

theorem dropDup_upTo {l l' : List Ver} (h : DropDup l l') (hs : l.Pairwise (fun x y => x.1 ≤ y.1)) (t : Nat) :
    Partial (upTo t l) (upTo t l') := by
  induction h with
  | here a b l hb =>
    -- times ascend (`hs`): if the dropped `b` is within `t` so is its predecessor `a`; otherwise both filtered lists are equal
    have hab : a.1 ≤ b.1 := (List.pairwise_cons.1 hs).1 b List.mem_cons_self
    by_cases hbt : b.1 ≤ t
    · have hat : a.1 ≤ t := Nat.le_trans hab hbt
      simp only [upTo, List.filter_cons, hat, hbt]
      exact .step _ _ _ (.here a b _ hb) (.refl _)
    · simp only [upTo, List.filter_cons, hbt]
      exact .refl _
  | there a l l' _ ih =>
    simp only [upTo, List.filter_cons]
    split
    · exact partial_cons (ih (List.pairwise_cons.1 hs).2) a
    · exact ih (List.pairwise_cons.1 hs).2

theorem partial_upTo {l l' : List Ver} (h : Partial l l') (hs : l.Pairwise (fun x y => x.1 ≤ y.1)) (t : Nat) :
    Partial (upTo t l) (upTo t l') := by
  induction h with
  | refl l => exact .refl _
  | step l l1 l2 hd _ ih => exact partial_trans (dropDup_upTo hd hs t) (ih (hs.sublist (dropDup_sublist hd)))

/-- **T-C12-4 (killed between flushes)**: whatever subset of its removals a compaction applied before it died, the
history has lost nothing but versions, the latest content and (for ascending times) the content visible at every past
instant are unchanged, and running the compaction again to the end gives the state an undisturbed compaction gives. -/
theorem partial_compaction_invisible {l l' : List Ver} (h : Partial l l') (hs : l.Pairwise (fun x y => x.1 ≤ y.1)) :
    l'.Sublist l ∧ lastContent l' = lastContent l ∧ (∀ t, lastContent (upTo t l') = lastContent (upTo t l))
    ∧ dedupAdj l' = dedupAdj l :=
  have ⟨h1, h2, h3⟩ := partial_invisible h
  ⟨h1, h2, fun t => (partial_invisible (partial_upTo h hs t)).2.1, h3⟩

theorem partial_dedupAdj (l : List Ver) : Partial l (dedupAdj l) := by
  cases l with
  | nil => exact .refl _
  | cons a l =>
    simp only [dedupAdj]
    induction l generalizing a with
    | nil => exact .refl _
    | cons v vs ih =>
      simp only [dedupFrom]
      split
      · exact .step _ _ _ (.here a v vs ‹_›) (ih a)
      · exact partial_cons (ih v) a

/-- T-C12-1a (latest view preserved): the content of the newest version of every entity is the same before and after
deduplication — listing, lookups and the latest-only feed show the same. -/
theorem latest_preserved (vs : List Ver) : lastContent (dedupAdj vs) = lastContent vs :=
  (partial_invisible (partial_dedupAdj vs)).2.1

/-- T-C12-2 (the feed loses exactly the adjacent duplicates): a version is removed iff its content
equals that of its immediate predecessor in what is kept; nothing else is removed and the order is kept. -/
theorem feed_sublist (vs : List Ver) : (dedupAdj vs).Sublist vs :=
  (partial_invisible (partial_dedupAdj vs)).1

theorem dedupFrom_append (prev : Ent) (p s : List Ver) :
    dedupFrom prev (p ++ s) = dedupFrom prev p ++ dedupFrom (lastC prev (dedupFrom prev p)) s := by
  induction p generalizing prev with
  | nil => rfl
  | cons v p ih =>
    simp only [List.cons_append, dedupFrom]
    split
    · exact ih prev
    · simp only [List.cons_append, lastC, ih v.2]

/-- T-C12-1b (point-in-time view preserved): what is kept of any prefix of the history is a prefix of what is kept of
the whole, with the prefix's last content — a lookup pinned to any instant sees the same before and after compaction. -/
theorem pinned_preserved (p s : List Ver) :
    (∃ rest, dedupAdj (p ++ s) = dedupAdj p ++ rest) ∧ lastContent (dedupAdj p) = lastContent p := by
  refine ⟨?_, latest_preserved p⟩
  cases p with
  | nil => exact ⟨dedupAdj s, rfl⟩
  | cons v p => exact ⟨_, by simp only [List.cons_append, dedupAdj, dedupFrom_append]; rfl⟩

theorem dedupFrom_noadj (v : Ver) (l : List Ver) (a b : Ver) (l1 l2 : List Ver) :
    v :: dedupFrom v.2 l = l1 ++ a :: b :: l2 → a.2 ≠ b.2 := by
  induction l generalizing v l1 with
  | nil =>
    -- `[v]` has no two neighbours: whatever `l1` is, the right side is longer
    intro h
    rcases l1 with _ | ⟨_, _ | _⟩ <;> cases h
  | cons w l ih =>
    simp only [dedupFrom]
    split
    · exact ih v l1
    · rename_i hw
      cases l1 with
      | nil => intro h; cases h; exact fun e => hw e.symm
      | cons x l1 => intro h; exact ih w l1 (List.cons.inj h).2

/-- after compaction no two neighbouring versions of an entity have the same content. -/
theorem no_adjacent_dups (vs : List Ver) (a b : Ver) (l1 l2 : List Ver)
    (heq : dedupAdj vs = l1 ++ a :: b :: l2) : a.2 ≠ b.2 := by
  cases vs with
  | nil => cases l1 <;> cases heq
  | cons v vs => exact dedupFrom_noadj v vs a b l1 l2 heq

theorem dropDup_append {l l' : List Ver} (h : DropDup l l') (w : List Ver) : DropDup (l ++ w) (l' ++ w) := by
  induction h with
  | here a b l hb => exact .here a b (l ++ w) hb
  | there a l l' _ ih => exact .there a _ _ ih

theorem partial_append {l l' : List Ver} (h : Partial l l') (w : List Ver) : Partial (l ++ w) (l' ++ w) := by
  induction h with
  | refl l => exact .refl _
  | step l l1 l2 hd _ ih => exact .step _ _ _ (dropDup_append hd w) ih

/-- **T-C12-5 (a writer racing the compactor)**: the compactor removes any subset `lc` of the duplicates it found in its
snapshot `l` while a writer appends `w`. What is left (`lc ++ w`) of the history `l ++ w` has lost nothing but versions,
shows the same latest content and the same content at every past instant, and compacts to the same final state. -/
theorem racing_writer_invisible {l lc : List Ver} (w : List Ver) (h : Partial l lc)
    (hs : (l ++ w).Pairwise (fun x y => x.1 ≤ y.1)) :
    (lc ++ w).Sublist (l ++ w) ∧ lastContent (lc ++ w) = lastContent (l ++ w)
    ∧ (∀ t, lastContent (upTo t (lc ++ w)) = lastContent (upTo t (l ++ w)))
    ∧ dedupAdj (lc ++ w) = dedupAdj (l ++ w) :=
  partial_compaction_invisible (partial_append h w) hs

theorem racing_writer_invisible_complete (l w : List Ver) (hs : (l ++ w).Pairwise (fun x y => x.1 ≤ y.1)) :
    lastContent (dedupAdj l ++ w) = lastContent (l ++ w)
    ∧ (∀ t, lastContent (upTo t (dedupAdj l ++ w)) = lastContent (upTo t (l ++ w))) :=
  let r := racing_writer_invisible w (partial_dedupAdj l) hs
  ⟨r.2.1, r.2.2.1⟩

/-- key level: a guarded flush never moves the latest pointer of an entity the writer has written since
the snapshot — whatever the compactor computed on its snapshot. -/
theorem raced_pointer_written (db0 dbw : DB) (ds : Nat) (key : Nat × Nat)
    (hw : dbw.latest.lookup key ≠ db0.latest.lookup key) :
    (compactRaced true db0 dbw ds).latest.lookup key = dbw.latest.lookup key := by
  -- `(compactRaced …).latest` folds over the pointers `p` the compactor wants to rewrite, from `dbw.latest`; each step keeps `lookup key`
  refine List.foldlRecOn (motive := fun l => List.lookup key l = dbw.latest.lookup key) _ _ rfl fun l hl p _ => ?_
  show List.lookup key (if !true || l.lookup p.1 == db0.latest.lookup p.1 then setAssoc p.1 p.2 l else l) = _
  split
  · -- the guard let `p` through: then `p.1 ≠ key`, since at `key` the pointer is no longer the snapshot's
    rename_i hc
    rw [Hub.Assoc.lookup_setAssoc_ne _ _ ?_ l]; exact hl
    rintro rfl
    rw [hl] at hc
    exact hw (by simpa using hc)
  · exact hl

-- D14 on the model: a writer stores a version between the compactor's snapshot and its flush of a legacy duplicate;
-- unguarded the entity's latest content is the old one again, guarded it is the writer's
example : let a : Ent := ⟨1, false, [], "1", []⟩; let b : Ent := ⟨1, false, [], "2", []⟩
    let db0 := injectVersion (storeBatch {} 2 10 [a]) 2 20 a
    let dbw := storeBatch db0 2 30 [b]
    (compactRaced false db0 dbw 2).stored 2 1 = some a ∧ (compactRaced true db0 dbw 2).stored 2 1 = some b
    ∧ (changesPage (compactRaced true db0 dbw 2) 2 0 0 false).1 = [a, b] := by decide

-- D34 on the key-level model: two deleted versions of one batch share a reference key; compaction keeps it, so the relation
-- stays removed, now and at instant 20 (`relatedOut db 1 0 99 0 [] none`: entity 1, any predicate, as of 99, no limit, any dataset)
example : let d1 : Ent := ⟨1, true, [(5, 2)], "1", []⟩; let d2 : Ent := ⟨1, true, [(5, 2)], "2", []⟩
    let l3 : Ent := ⟨1, false, [(5, 2)], "3", []⟩; let d3 : Ent := ⟨1, true, [(5, 2)], "3", []⟩
    let db := storeBatch (storeBatch {} 2 10 [d1]) 2 20 [d2, l3, d3]
    (relatedOut db 1 0 99 0 [] none).1 = [] ∧ (relatedOut (compact db 2) 1 0 99 0 [] none).1 = []
    ∧ (relatedOut (compact db 2) 1 0 20 0 [] none).1 = [] := by decide

open Hub.Facts.Compact in
/-- what `compactFrom` takes from the source (first version sets the base, duplicate iff equal to the base, base advances iff
the version stays, latest pointer rewritten for the newest version) and `compactRaced` (flush order, guard on the rewrite). -/
theorem facts_shape :
    evalFirst = ["isFirstVersion"]
    ∧ dupCond = ["server.IsEntityEqual(d.prevEntityBytes, entityBytes, d.prev, e)"]
    ∧ baseAdvance = ["!isDuplicate"]
    ∧ latestRewrite = ["isLatestVersion"]
    ∧ refDedupCond = ["e.IsDeleted == d.prev.IsDeleted && !laterVersionInSameBatch(jsonKey, txn)", "e.IsDeleted == d.prev.IsDeleted && !laterVersionInSameBatch(jsonKey, txn)", "reflect.DeepEqual(d.prev.References[k], stringOrArrayValue)", "e.IsDeleted == d.prev.IsDeleted && !laterVersionInSameBatch(jsonKey, txn)", "!identical"]
    ∧ flushOrder = ["strategy.flush", "txn.Get", "txn.Delete", "txn.Get", "txn.Set"]
    -- a latest pointer is re-pointed only when it still holds the json key the snapshot showed (the removed version)
    ∧ rewriteLoop = ["txn.Get", "ret-on-err", "item.ValueCopy", "ret-on-err", "bytes.Equal",
        "if !bytes.Equal(current, ops.RewriteExpected[i]) {", "continue", "}", "txn.Set", "ret-on-err"]
    ∧ rewriteExpected = ["append(rewriteExpected, jsonKey)"]
    -- reference keys are only given up by the last version of a batch: the look-ahead asks whether another key follows under the prefix
    ∧ laterInBatch = ["opts := badger.DefaultIteratorOptions", "opts.PrefetchValues = false", "opts.Prefix = jsonKey[:22]", "it := txn.NewIterator(opts)",
        "defer it.Close()", "it.Seek(jsonKey)", "if it.ValidForPrefix(opts.Prefix) && bytes.Equal(it.Item().Key(), jsonKey) { it.Next() }",
        "return it.ValidForPrefix(opts.Prefix)"]
    ∧ flushEveryTime = "bufferedKeys, err := strategy.flush(txn)"
    ∧ resetAfterFlush = ["reset"] := ⟨rfl, rfl, rfl, rfl, rfl, rfl, rfl, rfl, rfl, rfl, rfl⟩

/-- the strategy's decision procedure (what `compactFrom` models): the first version sets the base; a version equal to the
base is removed with its reference keys; otherwise the reference keys equal to those computed from the base are removed; the
base advances exactly when the version stays. -/
theorem facts_eval_skeleton : Hub.Facts.Compact.skeleton_eval = ["if isFirstVersion {", "set d.prevJsonKey = jsonKey", "set d.prevEntityBytes = entityBytes", "set d.prev = e", "return", "}", "set isDuplicate = false", "server.IsEntityEqual", "if server.IsEntityEqual(d.prevEntityBytes, entityBytes, d.prev, e) {", "set isDuplicate = true", "if isLatestVersion {", "mkLatestKey", "}", "findRefs", "ret-on-err", "} else {", "if e.IsDeleted == d.prev.IsDeleted && !laterVersionInSameBatch(jsonKey, txn) {", "for {", "reflect.DeepEqual", "if reflect.DeepEqual(d.prev.References[k], stringOrArrayValue) {", "processRefs", "ret-on-err", "processRefs", "ret-on-err", "set identical = false", "if len(refsToDel) == len(refsToDelPrev) {", "set identical = true", "for {", "bytes.Equal", "if !bytes.Equal(ref, refsToDelPrev[i]) {", "set identical = false", "break", "}", "}", "}", "}", "}", "}", "}", "if !isDuplicate {", "set d.prevJsonKey = jsonKey", "set d.prevEntityBytes = entityBytes", "set d.prev = e", "}", "if len(del) > 0 {", "return", "}", "return"] := rfl

-- a partial compaction of 1,2,2,1,1: only the first duplicate was removed before the kill
example : let a : Ent := ⟨1, false, [], "1", []⟩; let b : Ent := ⟨1, false, [], "2", []⟩
    Partial [(1, a), (2, b), (3, b), (4, a), (5, a)] [(1, a), (2, b), (4, a), (5, a)] :=
  .step _ _ _ (.there _ _ _ (.here _ _ _ rfl)) (.refl _)

-- non-vacuity: 1,2,2,1,1 keeps 1,2,1; the key-level model agrees on a dataset with a legacy duplicate
example : let a : Ent := ⟨1, false, [], "1", []⟩; let b : Ent := ⟨1, false, [], "2", []⟩
    dedupAdj [(1, a), (2, b), (3, b), (4, a), (5, a)] = [(1, a), (2, b), (4, a)] := by decide
example : let a : Ent := ⟨1, false, [(5, 2)], "1", []⟩
    let db := injectVersion (storeBatch {} 2 10 [a]) 2 20 a
    db.versions.length = 2 ∧ (compact db 2).versions.length = 1 ∧ (compact db 2).stored 2 1 = some a
    ∧ (changesPage (compact db 2) 2 0 0 false).1 = [a] ∧ (relatedOut (compact db 2) 1 0 99 0 [] none).1.length = 1 := by decide

end Hub.C12
