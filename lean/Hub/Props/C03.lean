import Hub.Proofs.RefIdxHist
import Hub.Proofs.OutScan
import Hub.Generated.Layout
/-!
# C03 — relationship queries equal the graph implied by the latest versions

The property theorems, with `keysOf` and `liveAt_iff_newestLive`, which carry a store's reference keys over to the index
model of `Hub/Proofs/RefIdx.lean` (a model of its own: that `Hub.Store.writeRefs` is the same algorithm is not a theorem).
What the scans compute: `Hub/Proofs/OutScan.lean`.
-/
namespace Hub.C03
open Hub.RefIdx

/-- T-C03-1 (index invariant, one write): writing version `v` after the versions `vs` — with the
reference diff against the predecessor, tombstones for removed references and for deleted
versions, and the removal of same-time tombstones when the predecessor is in the same batch —
keeps, for every reference and every instant,
  "the newest key ≤ at for the reference is live"  ⇔  "the last version ≤ at is live and carries it". -/
theorem index_step (vs : List Ver) (ks : List Key) (v : Ver) (inBatch : Bool)
    (hI : ∀ r at_, liveAt ks r at_ ↔ specLive vs r at_)
    (hkt : ∀ k ∈ ks, k.t ≤ v.t) (hvt : ∀ u ∈ vs, u.t ≤ v.t)
    (hfresh : inBatch = false → ∀ k ∈ ks, k.t < v.t)
    (r : Ref) (at_ : Nat) :
    liveAt (writeRefs ks vs.getLast? inBatch v) r at_ ↔ specLive (vs ++ [v]) r at_ :=
  step vs ks v inBatch hI hkt hvt hfresh r at_

/-- T-C03-1b (index invariant, every history): the versions of an entity in a dataset written one after the other — any
number, any references, deleted and live in any order, commit times non-decreasing, the predecessor counting as "in the same
batch" exactly when it carries the same commit time — leave an index in which, for every reference and every instant,
"the newest key ≤ at for the reference is live" ⇔ "the last version ≤ at is live and carries it". -/
theorem index_history (vs : List Ver) (hp : vs.Pairwise (fun a b => a.t ≤ b.t)) (r : Ref) (at_ : Nat) :
    liveAt (writeAll vs [] []) r at_ ↔ specLive vs r at_ := by
  have := hinv_writeAll vs [] [] hinv_empty (by simpa using hp)
  simpa using this.live r at_

-- non-vacuity: the last three versions in one batch (live, deleted, live again): the middle one's tombstone is gone
example : let vs : List Ver := [⟨10, false, [(5, 2), (6, 2)]⟩, ⟨20, false, [(6, 2)]⟩, ⟨20, true, []⟩, ⟨20, false, [(6, 2)]⟩]
    vs.Pairwise (fun a b => a.t ≤ b.t) ∧
    (writeAll vs [] []) = [⟨20, (5, 2), true⟩, ⟨20, (6, 2), false⟩, ⟨10, (6, 2), false⟩, ⟨10, (5, 2), false⟩] := by decide +kernel

theorem index_init (r : Ref) (at_ : Nat) : liveAt [] r at_ ↔ specLive [] r at_ :=
  hinv_empty.live r at_

open Hub.Store Hub.OutScan in
/-- T-C03-2 (scan side): the unpaged outgoing query returns the pair (p, target) — exactly once, and without a
continuation — iff `p` passes the predicate filter and for some in-scope, non-deleted dataset the NEWEST reference
key of (source, p, target, dataset) recorded at or before `at` is not a tombstone (the `seen` / `added` bookkeeping of
the reverse scan, the site of defect D3, included). -/
theorem outgoing_unpaged (db : DB) (src pred at_ : Nat) (scope : List Nat) :
    let res := (relatedOut db src pred at_ 0 scope none).1
    (∀ p t, (∃ r ∈ res, r.pred = p ∧ r.other = t) ↔
        predOK pred p ∧ ∃ ds, inScope db scope ds = true ∧ NewestLive db src at_ p t ds)
    ∧ (res.map fun r => (r.pred, r.other)).Nodup
    ∧ (relatedOut db src pred at_ 0 scope none).2 = none := by
  intro res
  have hres : res.map (fun r => (r.pred, r.other)) = (resultKeys db src pred at_ scope).map pair := by
    simp only [res, relatedOut_all, List.map_map]; rfl
  refine ⟨fun p t => ?_, ?_, by rw [relatedOut_all]⟩
  · have : (∃ r ∈ res, r.pred = p ∧ r.other = t) ↔ (p, t) ∈ res.map fun r => (r.pred, r.other) := by simp [eq_comm]
    rw [this, hres, resultKeys, pair_mem_resKeys]
    -- from the empty state nothing is added or seen; what is left is `firstOf_live_iff`, dataset by dataset
    simp only [List.not_mem_nil, not_false_eq_true, and_true, true_and]
    exact and_congr_right fun _ => exists_congr fun ds => firstOf_live_iff db src at_ scope p t ds
  · rw [hres]
    exact resKeys_nodup pred _ [] []

open Hub.Store Hub.OutScan in
/-- T-C03-3a (a page is a window): with limit `n` the outgoing query returns the first `n` results of the unpaged
query; continued from the key of the last result of a page it returns the next `n`; the continuation key is that of the
page's last result exactly when more follow — the fast-forward to the continuation key makes the same `seen` / `added`
decisions as the unpaged scan (the site of defect D3). -/
theorem outgoing_page_window (db : DB) (src pred at_ n : Nat) (scope : List Nat) (sk : Option RefKey)
    (hsk : ∀ ks, sk = some ks → ks ∈ resultKeys db src pred at_ scope) :
    let R := resultKeys db src pred at_ scope
    let A := match sk with | none => R | some ks => afterKey ks R
    let m := if n = 0 then A.length else n
    relatedOut db src pred at_ n scope sk =
      ((A.take m).map toRes, if n ≠ 0 ∧ m < A.length then (A.take m).getLast? else none) :=
  relatedOut_page db src pred at_ n scope sk hsk

open Hub.Store Hub.OutScan in
/-- **T-C03-3: paging returns the same result — nothing missing, nothing twice.** For every limit `n ≥ 1`, following the
continuation keys and concatenating the pages gives exactly the list the unpaged query returns. -/
theorem outgoing_paged_eq_unpaged (db : DB) (src pred at_ n : Nat) (scope : List Nat) (hn : 0 < n) :
    allPages db src pred at_ n scope ((resultKeys db src pred at_ scope).length + 1) none
      = (relatedOut db src pred at_ 0 scope none).1 := by
  rw [relatedOut_all]
  exact allPages_tile db src pred at_ n scope hn _ [] _ rfl (by omega)

/-- the reference keys of one (dataset, referencing entity), as the index model of `index_step` sees them. -/
def keysOf (db : Hub.Store.DB) (src ds : Nat) : List Key :=
  (db.refs.filter fun k => k.src == src && k.ds == ds).map fun k => ⟨k.t, (k.pred, k.tgt), k.del⟩

open Hub.Store Hub.OutScan in
/-- the link between `outgoing_unpaged` (scan side) and the index invariant in `outgoing_eq_graph`. -/
theorem liveAt_iff_newestLive (db : DB) (src ds p t at_ : Nat) :
    liveAt (keysOf db src ds) (p, t) at_ ↔ NewestLive db src at_ p t ds := by
  unfold liveAt NewestLive
  -- `keysOf` projects the store's keys of (`src`, `ds`); `Key.rank` of a projection and `OutScan.rank` unfold to the same term
  have hmem : ∀ x : Key, x ∈ keysOf db src ds ↔
      ∃ k ∈ db.refs, (k.src = src ∧ k.ds = ds) ∧ (⟨k.t, (k.pred, k.tgt), k.del⟩ : Key) = x := by
    intro x; simp [keysOf, and_assoc]
  constructor
  · rintro ⟨x, hx, hr, hle, hd, hmax⟩
    obtain ⟨k, hk, ⟨hs, hds⟩, rfl⟩ := (hmem x).1 hx
    obtain ⟨hp, ht⟩ := Prod.mk.inj hr
    have htr : triple k = (p, t, ds) := by rw [triple, hp, ht, hds]
    refine ⟨k, hk, hs, htr, hle, hd, fun k' hk' hs' ht' hle' => ?_⟩
    obtain ⟨hp', ht', hds'⟩ : k'.pred = p ∧ k'.tgt = t ∧ k'.ds = ds := by simpa using ht'
    exact hmax _ ((hmem _).2 ⟨k', hk', ⟨hs', hds'⟩, rfl⟩) (by rw [hp', ht']) hle'
  · rintro ⟨k, hk, hs, htr, hle, hd, hmax⟩
    obtain ⟨hp, ht, hds⟩ : k.pred = p ∧ k.tgt = t ∧ k.ds = ds := by simpa using htr
    refine ⟨_, (hmem _).2 ⟨k, hk, ⟨hs, hds⟩, rfl⟩, by rw [hp, ht], hle, hd, fun x hx hr' hle' => ?_⟩
    obtain ⟨k', hk', ⟨hs', hds'⟩, rfl⟩ := (hmem x).1 hx
    obtain ⟨hp', ht'⟩ := Prod.mk.inj hr'
    exact hmax k' hk' hs' (by rw [triple, hp', ht', hds']) hle'

open Hub.Store Hub.OutScan in
/-- **T-C03-2: the outgoing query equals the graph implied by the latest versions.** If, for the referencing entity
`src`, the reference index of every dataset agrees with that dataset's version history `vs ds`, then the unpaged
outgoing query as of `at` returns the pair (p, target) — once — iff `p` passes the predicate filter and some in-scope,
non-deleted dataset's last version of `src` recorded at or before `at` is not deleted and carries the reference. -/
theorem outgoing_eq_graph (db : DB) (src pred at_ : Nat) (scope : List Nat) (vs : Nat → List Ver)
    (hI : ∀ ds r a, liveAt (keysOf db src ds) r a ↔ specLive (vs ds) r a) :
    let res := (relatedOut db src pred at_ 0 scope none).1
    (∀ p t, (∃ r ∈ res, r.pred = p ∧ r.other = t) ↔
        predOK pred p ∧ ∃ ds, inScope db scope ds = true ∧ specLive (vs ds) (p, t) at_)
    ∧ (res.map fun r => (r.pred, r.other)).Nodup := by
  obtain ⟨h1, h2, _⟩ := outgoing_unpaged db src pred at_ scope
  exact ⟨fun p t => by simp only [h1, ← liveAt_iff_newestLive, hI], h2⟩

-- the hypothesis of `outgoing_eq_graph` is met by the empty store
example (src ds : Nat) (r : Ref) (a : Nat) : liveAt (keysOf {} src ds) r a ↔ specLive [] r a := by
  simpa [keysOf] using index_init r a

open Hub.Facts.Layout in
/-- the two reference-key layouts (`RefKey.outFields`, `inFields`) and the offsets the scans read them at; in the outgoing branch a
live key past the start key is returned and every live key marks its pair added (the `s2` branches of `outStep`); writing a live
version removes the tombstone of the same time only when an in-batch predecessor exists (`inBatch` in `writeRefs`). -/
theorem facts_shape :
    outKey = [("OutgoingRefIndex", 0, 16), ("rid", 2, 64), ("uint64(txnTime)", 10, 64), ("predid", 18, 64), ("relatedid", 26, 64), ("1", 34, 16), ("ds.InternalID", 36, 32)]
    ∧ inKey = [("IncomingRefIndex", 0, 16), ("relatedid", 2, 64), ("rid", 10, 64), ("uint64(txnTime)", 18, 64), ("predid", 26, 64), ("1", 34, 16), ("ds.InternalID", 36, 32)]
    ∧ relatedReads = ["binary.BigEndian.Uint32(k[36:])", "binary.BigEndian.Uint64(k[18:])", "binary.BigEndian.Uint64(k[10:])",
        "binary.BigEndian.Uint64(k[26:])", "binary.BigEndian.Uint16(k[34:])", "binary.BigEndian.Uint32(k[36:])",
        "binary.BigEndian.Uint64(k[10:])", "binary.BigEndian.Uint64(k[18:])", "binary.BigEndian.Uint64(k[26:])", "binary.BigEndian.Uint16(k[34:])"]
    ∧ relatedAddedMarks = ["else(from.Inverse)", "del != 1 && hasReachedStartKey", "del != 1"]
    ∧ tombstoneRemovalCond = ["else(e.IsDeleted)", "isDifferentLocally"] := ⟨rfl, rfl, rfl, rfl, rfl⟩

open Hub.Store in
/-- non-vacuity / sanity on the store model: A -p-> B in two datasets, outgoing query with limit 1
returns B once and no continuation (the D3 input), and a removed reference is gone. -/
example :
    let a : Ent := ⟨1, false, [(5, 2)], "a", []⟩
    let db := storeBatch (storeBatch {} 2 10 [a]) 3 20 [a]
    let p1 := relatedOut db 1 0 99 1 [] none
    p1 = ([⟨5, 2, 3, 20⟩], none)
    ∧ (relatedOut (storeBatch db 3 30 [⟨1, false, [], "b", []⟩]) 1 0 99 0 [3] none).1 = [] := by decide +kernel

open Hub.Store in
/-- known finding D4 (inverse scan): `S -p,q-> X`, then `S -q-> X`. The outgoing query from S
returns q only, the inverse query from X returns p and q — incoming is not the transpose. -/
theorem incoming_not_transpose :
    let s1 : Ent := ⟨1, false, [(5, 2), (6, 2)], "a", []⟩
    let s2 : Ent := ⟨1, false, [(6, 2)], "b", []⟩
    let db := storeBatch (storeBatch {} 7 10 [s1]) 7 20 [s2]
    ((relatedOut db 1 0 99 0 [] none).1.map fun r => r.pred) = [6]
    ∧ ((relatedIn db 2 0 99 0 [] none).1.map fun r => r.pred) = [5, 6] := by decide +kernel

end Hub.C03
