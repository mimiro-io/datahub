import Hub.Proofs.Bisect
import Hub.Generated.ErrHandler
import Hub.Generated.Jobs
/-!
# C17 — per-entity error handling isolates failing entities

The property theorems about `wrappedSink.processEntities` and `handleJobError` (model: `Hub/Model/Bisect.lean`), for a sink
that is an arbitrary stateful oracle; what one call does is in `Hub/Proofs/Bisect.lean`.
-/
namespace Hub.C17
open Hub.Bisect

variable {E σ : Type}

/-- T-C17-1 (partition, no item limit): when `processEntities` returns, every input entity is in
exactly one accepted batch or was reported exactly once — for every sink behaviour. -/
theorem partition (sinkF : σ → List E → Bool × σ) (es : List E) (s : St E σ) :
    ((proc sinkF 0 es s).1.delivered ++ (proc sinkF 0 es s).1.reported).Perm
      (s.delivered ++ s.reported ++ es) ∧ (proc sinkF 0 es s).2 = .ok := by
  have h := proc_spec sinkF 0 es s
  -- without a limit the call cannot end with `maxItems`, so the prefix it has dealt with is the whole batch
  have hok := (Res.ok_or_max _).resolve_right fun hr => Nat.lt_irrefl 0 (h.maxOnlyAtLimit hr).1
  obtain ⟨k, _, hk, hp⟩ := h.prefixDone
  rw [hk hok, List.take_length] at hp
  exact ⟨hp, hok⟩

def permSink (bad : E → Bool) : Unit → List E → Bool × Unit := fun u es => (!(es.any bad), u)

/-- T-C17-2 (permanent rejects): every non-rejected entity is delivered, in order; every rejected
entity is reported exactly once, in order. -/
theorem permanent_rejects (bad : E → Bool) (es : List E) (s : St E Unit) :
    (proc (permSink bad) 0 es s).1.delivered = s.delivered ++ es.filter (fun e => !bad e)
    ∧ (proc (permSink bad) 0 es s).1.reported = s.reported ++ es.filter bad
    ∧ (proc (permSink bad) 0 es s).2 = .ok :=
  proc_permanent (permSink bad) bad (fun _ _ => rfl) es s

/-- what `max_items` says of one call that starts below the limit `m`. -/
def MaxSpec (m : Nat) (es : List E) (s : St E σ) (r : St E σ × Res) : Prop :=
  r.1.count ≤ m ∧ (r.2 = .maxItems ↔ r.1.count = m)
  ∧ r.1.count + s.reported.length = s.count + r.1.reported.length
  ∧ s.reported.length ≤ r.1.reported.length
  ∧ ∃ k, k ≤ es.length ∧ (r.2 = .ok → k = es.length) ∧
      (r.1.delivered ++ r.1.reported).Perm (s.delivered ++ s.reported ++ es.take k)

/-- T-C17-3 (maxItems): starting below the limit, at most `m` entities are ever reported, the
result is `MaxItemsExceeded` exactly when the m-th rejection was seen, and what was delivered or
reported so far is exactly a prefix of the batch (nothing lost, nothing twice, and — because the
function returns at once — no sink call after the m-th rejection). -/
theorem max_items (sinkF : σ → List E → Bool × σ) (m : Nat) (es : List E) (s : St E σ)
    (hc : s.count < m) : MaxSpec m es s (proc sinkF m es s) := by
  have h := proc_spec sinkF m es s
  obtain ⟨hle, hlt⟩ := h.withinLimit hc
  refine ⟨hle, ⟨fun hmax => ?_, fun heq => ?_⟩, h.counter, h.reportedGrows, h.prefixDone⟩
  · exact Nat.le_antisymm hle (h.maxOnlyAtLimit hmax).2
  · exact (Res.ok_or_max _).resolve_left fun hok => Nat.ne_of_lt (hlt hok) heq

/-- T-C17-4 (outcome carries the error): in any run (any batches, any sink behaviour, any maxItems) that starts from a
reset wrapper, if at least one entity was rejected then `lastError` is set when the run ends, so `handleJobError`
records the run as failed. -/
theorem outcome_carries_error (sinkF : σ → List E → Bool × σ) (m : Nat) (bs : List (List E))
    (s : St E σ) (hrej : (run sinkF m bs s.reset).1.reported ≠ []) :
    (run sinkF m bs s.reset).1.lastErr = true
    ∧ classify 0 true (run sinkF m bs s.reset).1.lastErr = .failed
    ∧ classify 1 true (run sinkF m bs s.reset).1.lastErr = .failed := by
  have h := run_carries sinkF m bs s.reset (fun hr => absurd rfl hr) hrej
  simp [h.1, classify]

/-- T-C17-5a: a re-run is scheduled only after a failure that is not a kill. -/
theorem rerun_only_after_failure (o : Outcome) (r : Option Nat) :
    (afterRun o r).1 = true → o = .failed ∧ ∃ n, r = some (n + 1) ∧ (afterRun o r).2 = some n := by
  unfold afterRun
  split
  · intro _; exact ⟨rfl, _, rfl, rfl⟩
  · intro h; cases h

theorem chain_le (os : List Outcome) (r : Option Nat) : chain os r ≤ r.getD 0 + 1 := by
  induction os generalizing r with
  | nil => exact Nat.zero_le _
  | cons o os ih =>
    rw [chain]
    cases ha : (afterRun o r).1 with
    | false => exact Nat.le_add_left _ _
    | true =>
      obtain ⟨_, n, rfl, hn⟩ := rerun_only_after_failure o r ha
      have := ih (some n)
      simp only [hn, if_true, Option.getD_some] at this ⊢
      omega

/-- T-C17-5b: whatever the outcomes of the runs are, a job with `maxRetries = n` executes at most
`n + 1` runs in a chain (the first plus at most n re-runs); with no reRun handler exactly one. -/
theorem rerun_bounded (os : List Outcome) (n : Nat) : chain os (some n) ≤ n + 1 := chain_le os (some n)

theorem no_handler_no_rerun (os : List Outcome) : chain os none ≤ 1 := chain_le os none

/-- a success or a kill ends the chain. -/
theorem chain_stops (o : Outcome) (os : List Outcome) (r : Option Nat) (h : o ≠ .failed) :
    chain (o :: os) r = 1 := by
  rw [chain]
  cases ha : (afterRun o r).1 with
  | false => rfl
  | true => exact absurd (rerun_only_after_failure o r ha).1 h

open Hub.Facts.ErrHandler in
/-- what the model takes from the source: the split, the leaves and the guard on the right half (`procG`), when `lastError` is
cleared (`St.accept`), count-then-compare (`handle`), what a run resets (`St.reset`), a re-run uses up a retry (`afterRun`). -/
theorem facts_shape :
    splitPoint = ["len(entities) / 2"] ∧ leafCond = ["len(entities) <= 1"]
    ∧ clearCond = ["w.recursionDepth == 0 && !w.failedInRun"] ∧ failedMark = ["err != nil"]
    ∧ depthIncr = ["else(len(entities) <= 1)"]
    ∧ rightGuard = ["!errors.Is(leftErr, MaxItemsExceededError)"]
    ∧ halves = ["entities[:splitPoint]", "entities[splitPoint:]"]
    ∧ recursiveCalls = ["w.processEntities(runner, left)", "w.processEntities(runner, right)"]
    ∧ maxItemsCond = ["l.MaxItems > 0 && l.count >= l.MaxItems"]
    ∧ handlerBody = ["l.count = l.count + 1", "if l.MaxItems > 0 && l.count >= l.MaxItems { return MaxItemsExceededError }", "return nil"]
    ∧ sinkReset = ["w.recursionDepth = 0", "w.failedInRun = false", "for _, eh := range w.failingEntityHandlers { eh.reset() }"]
    ∧ logReset = ["l.count = 0"]
    ∧ rerunCond = ["j.errorHandlers != nil", "eh.MaxRetries > 0"]
    ∧ rerunBody = ["eh.MaxRetries = eh.MaxRetries - 1", "time.AfterFunc(…)"] := ⟨rfl, rfl, rfl, rfl, rfl, rfl, rfl, rfl, rfl, rfl, rfl, rfl, rfl, rfl⟩

/-- `job.Run`: a trigger first competes for the job's ticket and leaves when it is refused; only the ticket holder resets the
error-handling state and runs the pipeline — a trigger that arrives while the job is running cannot disturb the run. -/
theorem facts_reset_under_ticket :
    Hub.Facts.Jobs.skeleton_Run =
      ["j.runner.raffle.borrowTicket", "if ticket == nil {", "j.pipeline.isFullSync", "if j.pipeline.isFullSync() {", "return", "}", "return", "}",
       "j.instrumentErrorHandling", "defer {", "func {", "j.handleJobError", "}", "}", "defer {", "j.runner.raffle.returnTicket", "}",
       "j.pipeline.isFullSync", "j.pipeline.sync"] := rfl

-- non-vacuity: a run in which the 2nd entity is rejected and the others delivered
example : let r := run (permSink (fun e : Nat => e == 2)) 0 [[1, 2, 3], [4]] ({ sink := () } : St Nat Unit).reset
    r.1.delivered = [1, 3, 4] ∧ r.1.reported = [2] ∧ r.1.lastErr = true := by decide +kernel
example : let r := proc (permSink (fun e : Nat => e % 2 == 0)) 2 [1, 2, 3, 4, 5, 6] ({ sink := () } : St Nat Unit)
    r.2 = .maxItems ∧ r.1.reported = [2, 4] ∧ r.1.delivered = [1, 3] := by decide +kernel

/-! ## negative witness for the pinned commit (D9, fixed): a rejected single-entity batch
followed by a clean batch is recorded as success. -/
theorem cur_forgets_error :
    let r := runCur (permSink (fun e : Nat => e == 1)) 0 [[1], [2]] ({ sink := () } : St Nat Unit).reset
    r.1.reported = [1] ∧ r.1.lastErr = false := by decide +kernel

end Hub.C17
