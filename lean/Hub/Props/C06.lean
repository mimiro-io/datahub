import Hub.Proofs.Frame
import Hub.Proofs.SortBy
import Hub.Generated.Layout
/-!
# C06 — history is immutable: answers pinned to a past instant never change

The property theorems and the relation `After` they go through. Model: `Hub/Model/Store.lean`; frame lemmas: `Hub/Proofs/Frame.lean`.
-/
namespace Hub.C06
open Hub.Store Hub.Frame

/-- T-C06-1 (frame): a batch committed at time `t` changes no reference key of another time, adds
only version keys of time `t`, and leaves the set of deleted datasets alone. -/
theorem frame (db : DB) (ds t : Nat) (b : List Ent) (nw : List Nat := []) :
    (storeBatch db ds t b nw).refs.filter (fun r => decide (r.t ≠ t)) = db.refs.filter (fun r => decide (r.t ≠ t))
    ∧ (∃ new, (storeBatch db ds t b nw).versions = db.versions ++ new ∧ ∀ v ∈ new, v.1.t = t ∧ v.1.ds = ds)
    ∧ (storeBatch db ds t b nw).deletedDs = db.deletedDs :=
  have h := storeBatch_adds (K := fun x => decide (x ≠ t)) (by simp) db ds b nw
  ⟨h.refs, h.versions, h.deletedDs⟩

/-- the same for a multi-dataset transaction. -/
theorem frame_txn (db : DB) (t : Nat) (parts : List (Nat × List Ent)) (nw : List Nat := []) :
    (execTxn db t parts nw).refs.filter (fun r => decide (r.t ≠ t)) = db.refs.filter (fun r => decide (r.t ≠ t))
    ∧ (∃ new, (execTxn db t parts nw).versions = db.versions ++ new ∧ ∀ v ∈ new, v.1.t = t)
    ∧ (execTxn db t parts nw).deletedDs = db.deletedDs :=
  have h := (execTxn_adds (K := fun x => decide (x ≠ t)) (by simp) db parts nw).mono fun _ hk => hk.1
  ⟨h.refs, h.versions, h.deletedDs⟩

/-- T-C06-2 (lookups are local to the past): the versions an as-of lookup looks at depend only on
the version keys with time ≤ `at` and on the set of deleted datasets. -/
theorem visible_local (db db' : DB) (rid at_ : Nat) (scope : List Nat) (new : List (VKey × Ent))
    (hv : db'.versions = db.versions ++ new) (hn : ∀ v ∈ new, at_ < v.1.t) (hd : db'.deletedDs = db.deletedDs) :
    visibleVersions db' rid at_ scope = visibleVersions db rid at_ scope := by
  unfold visibleVersions
  rw [hv, hd, List.filter_append, (List.filter_eq_nil_iff (l := new)).2, List.append_nil]
  intro v hvn
  simp [Nat.not_le_of_gt (hn v hvn)]

/-- T-C06-2' (outgoing queries are local to the past): the outgoing scan pinned to `at` only
depends on the reference keys with time ≤ `at` (and on the set of deleted datasets). -/
theorem relatedOut_local (db db' : DB) (src pred at_ limit : Nat) (scope : List Nat) (sk : Option RefKey)
    (hr : db'.refs.filter (fun r => decide (r.t ≤ at_)) = db.refs.filter (fun r => decide (r.t ≤ at_)))
    (hd : db'.deletedDs = db.deletedDs) :
    relatedOut db' src pred at_ limit scope sk = relatedOut db src pred at_ limit scope sk :=
  relatedOut_congr (by simp only [hr, inScope, hd]) hd src pred limit sk

/-! Both kinds of answer pinned to `at_` are invariant under `After at_`, which is reflexive, transitive and holds of every
write committed later than `at_`. -/

abbrev After (at_ : Nat) : DB → DB → Prop := Adds (fun k => at_ < k.t) (fun x => decide (x ≤ at_))

theorem partialsAt_after {at_ : Nat} {db db' : DB} (h : After at_ db db') (rid : Nat) (scope : List Nat) :
    partialsAt db' rid at_ scope = partialsAt db rid at_ scope := by
  obtain ⟨new, hv, hn⟩ := h.versions
  unfold partialsAt
  rw [visible_local db db' rid at_ scope new hv hn h.deletedDs]

theorem relatedOut_after {at_ : Nat} {db db' : DB} (h : After at_ db db') (src pred limit : Nat) (scope : List Nat)
    (sk : Option RefKey) : relatedOut db' src pred at_ limit scope sk = relatedOut db src pred at_ limit scope sk :=
  relatedOut_local db db' src pred at_ limit scope sk h.refs h.deletedDs

/-- for any `newIds`; a batch is the transaction with one part (`Hub.C01.batch_is_txn`, by unfolding). -/
theorem after_txn {at_ t : Nat} (h : at_ < t) (db : DB) (parts : List (Nat × List Ent)) (nw : List Nat) :
    After at_ db (execTxn db t parts nw) := by
  have hK : decide (t ≤ at_) = false := decide_eq_false (Nat.not_le.2 h)
  exact (execTxn_adds hK db parts nw).mono fun k hk => by rw [hk.1]; exact h

/-- T-C06-3 (entity lookups are immutable): for every batch committed after `at`, into any
dataset, the as-of lookup at `at` — per-dataset partials, deleted flag — is what it was. -/
theorem lookup_immutable (db : DB) (ds t : Nat) (b : List Ent) (rid at_ : Nat) (scope : List Nat) (h : at_ < t) :
    partialsAt (storeBatch db ds t b) rid at_ scope = partialsAt db rid at_ scope :=
  partialsAt_after (after_txn h db [(ds, b)] []) rid scope

theorem lookup_immutable_txn (db : DB) (t : Nat) (parts : List (Nat × List Ent)) (rid at_ : Nat) (scope : List Nat)
    (h : at_ < t) : partialsAt (execTxn db t parts) rid at_ scope = partialsAt db rid at_ scope :=
  partialsAt_after (after_txn h db parts []) rid scope

/-- T-C06-3' (outgoing relationship queries are immutable): for every batch committed after `at`
the outgoing query pinned to `at` — results and continuation, for every limit and every
continuation key — is what it was. -/
theorem relatedOut_immutable (db : DB) (ds t : Nat) (b : List Ent) (src pred at_ limit : Nat) (scope : List Nat)
    (sk : Option RefKey) (h : at_ < t) :
    relatedOut (storeBatch db ds t b) src pred at_ limit scope sk = relatedOut db src pred at_ limit scope sk :=
  relatedOut_after (after_txn h db [(ds, b)] []) src pred limit scope sk

/-- the same for a multi-dataset transaction committed after `at`. -/
theorem relatedOut_immutable_txn (db : DB) (t : Nat) (parts : List (Nat × List Ent)) (src pred at_ limit : Nat)
    (scope : List Nat) (sk : Option RefKey) (h : at_ < t) :
    relatedOut (execTxn db t parts) src pred at_ limit scope sk = relatedOut db src pred at_ limit scope sk :=
  relatedOut_after (after_txn h db parts []) src pred limit scope sk

/-- a lookup exactly at a commit time already sees that commit (`at < recordedTime` skips, so
equality is included). -/
theorem lookup_includes_commit_instant (db : DB) (v : VKey × Ent) (hv : v ∈ db.versions)
    (hd : db.deletedDs.contains v.1.ds = false) :
    v ∈ visibleVersions db v.1.rid v.1.t [] :=
  (Hub.SortBy.mem_sortBy _).2 (List.mem_filter.2 ⟨hv, by simpa using hd⟩)

inductive Write where
  | batch (ds t : Nat) (b : List Ent)
  | txn (t : Nat) (parts : List (Nat × List Ent))

def Write.time : Write → Nat
  | .batch _ t _ => t
  | .txn t _ => t

def Write.apply (db : DB) : Write → DB
  | .batch ds t b => storeBatch db ds t b
  | .txn t parts => execTxn db t parts

/-- T-C06-4 (history is immutable, every suffix): whatever is written after the instant `at` — batches and transactions,
into any datasets, in any order — an entity lookup pinned to `at` (live partials and deleted flag, any scope) and an
outgoing relationship query pinned to `at` (results and continuation, any limit, predicate, scope and continuation key)
answer exactly what they answered before. -/
theorem history_immutable (db : DB) (ws : List Write) (at_ : Nat) (h : ∀ w ∈ ws, at_ < w.time) :
    (∀ rid scope, partialsAt (ws.foldl Write.apply db) rid at_ scope = partialsAt db rid at_ scope)
    ∧ (∀ src pred limit scope sk,
        relatedOut (ws.foldl Write.apply db) src pred at_ limit scope sk = relatedOut db src pred at_ limit scope sk) := by
  have hA : After at_ db (ws.foldl Write.apply db) := by
    refine List.foldlRecOn ws _ (motive := After at_ db) (.refl db) fun acc hacc w hw => hacc.trans ?_
    cases w with
    | batch ds t b => exact after_txn (h _ hw) acc [(ds, b)] []
    | txn t parts => exact after_txn (h _ hw) acc parts []
  exact ⟨partialsAt_after hA, fun src pred => relatedOut_after hA src pred⟩

-- non-vacuity: a later batch deletes the entity, a later transaction re-creates it; the lookup at 15 stays
example : let a : Ent := ⟨1, false, [], "1", []⟩;
    let d : Ent := ⟨1, true, [], "1", []⟩
    let db := storeBatch {} 2 10 [a]
    let ws := [Write.batch 2 20 [d], Write.txn 30 [(2, [a]), (3, [a])]]
    (∀ w ∈ ws, 15 < w.time) ∧ (partialsAt (ws.foldl Write.apply db) 1 15 []).1.map (·.1.t) = [10]
    ∧ (partialsAt (ws.foldl Write.apply db) 1 25 []).1.map (·.1.t) = [] := by decide +kernel

open Hub.Facts.Layout in
/-- both pinned reads skip a key recorded after the instant or of a deleted / out-of-scope dataset before anything else
(`visibleVersions`, `relatedOut`'s key filter and the first tests of `outStep`, `inStep`); the commit time is read from the clock
under the dataset lock(s), before the keys are written: the hypothesis `at_ < w.time` of `history_immutable`. -/
theorem facts_shape :
    lookupTimeSkip = ["at < recordedTime", "datasetDeleted || !datasetIncluded"]
    ∧ lookupReads = ["binary.BigEndian.Uint64(key[14:])", "binary.BigEndian.Uint32(key[10:])"]
    ∧ entityKey = [("EntityIDToJSONIndexID", 0, 16), ("rid", 2, 64), ("ds.InternalID", 10, 32), ("uint64(txnTime)", 14, 64), ("uint16(batchSeqNum)", 22, 16)]
    ∧ relatedSkips = ["from.Inverse", "else(from.Inverse)", "s.deletedDatasets[datasetID] || !datasetIncluded", "et > from.At",
        "from.Predicate != predID && from.Predicate > 0", "s.deletedDatasets[datasetID] || !datasetIncluded", "et > from.At",
        "from.Predicate != predID && from.Predicate > 0", "dsSeen || isAdded"]
    ∧ storeSteps = ["ds.WriteLock.Lock", "time.Sleep", "time.Now().UnixNano", "ds.StoreEntitiesWithTransaction", "ds.store.commitIDTxn", "txn.Commit", "ds.updateDataset"]
    ∧ txnSteps = ["sort.Strings", "dataset.(*Dataset).WriteLock.Lock", "time.Now().UnixNano", "ds.StoreEntitiesWithTransaction", "s.commitIDTxn", "txn.Commit", "ds.(*Dataset).updateDataset"] := ⟨rfl, rfl, rfl, rfl, rfl, rfl⟩

-- non-vacuity: a later write, a lookup pinned before it and one after
example : let e1 : Ent := ⟨1, false, [(5, 2)], "a", []⟩;
    let e1' : Ent := ⟨1, true, [], "b", []⟩
    let db := storeBatch {} 2 10 [e1];
    let db' := storeBatch db 2 20 [e1']
    partialsAt db' 1 15 [] = partialsAt db 1 15 [] ∧ (partialsAt db' 1 15 []).1.length = 1
    ∧ (partialsAt db' 1 25 []).1.length = 0
    ∧ (relatedOut db' 1 0 15 0 [] none).1 = [⟨5, 2, 2, 10⟩] ∧ (relatedOut db' 1 0 25 0 [] none).1 = [] := by decide +kernel

end Hub.C06
