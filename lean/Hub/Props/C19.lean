import Hub.Proofs.StoreInv
import Hub.Proofs.TxnRefine
import Hub.Proofs.Registry
import Hub.Generated.Layout
import Hub.Generated.LockFacts
/-!
# C19 — dataset catalogue, core.Dataset and the datasets themselves agree

Counter: `InvC` of `Hub/Proofs/StoreInv.lean`; catalogue: `Hub/Model/Registry.lean`, invariant in `Hub/Proofs/Registry.lean`.
-/
namespace Hub.C19
open Hub.Store Hub.StoreInv Hub.Registry

/-- T-C19-2 (items = number of distinct ids ever stored): in every state reached through the write
path the counter of a dataset is the length of a duplicate-free enumeration of exactly the ids that
have at least one version there. -/
theorem items_eq_distinct {db : DB} {S : Spec} (h : Inv db S) (ds : Nat) :
    db.itemsOf ds = (S.ids ds).length ∧ (S.ids ds).Nodup ∧ ∀ id, id ∈ S.ids ds ↔ S.vers ds id ≠ [] :=
  ⟨h.c.items ds, h.c.nodup ds, h.c.mem ds⟩

open Hub.TxnRefine in
/-- T-C19-2b (every history, transactions included): from the empty store, after any history of batches and multi-dataset
transactions with increasing commit times, the counter of every dataset is the number of distinct ids that have at least one
version there. -/
theorem items_reachable (h : List (Nat × List (Nat × List Ent))) (hinc : h.Pairwise (fun a b => a.1 < b.1))
    (hd : ∀ w ∈ h, (w.2.map (·.1)).Nodup) (ds : Nat) :
    (runTxns h {}).itemsOf ds = ((specTxns h {}).ids ds).length ∧ ((specTxns h {}).ids ds).Nodup
    ∧ ∀ id, id ∈ (specTxns h {}).ids ds ↔ (specTxns h {}).vers ds id ≠ [] :=
  items_eq_distinct (inv_reachable h hinc hd) ds

-- non-vacuity: entity 1 stored twice in dataset 2, once in a transaction that also creates it in dataset 3
open Hub.TxnRefine in
example : let e : Ent := ⟨1, false, [], "a", []⟩;
    let d : Ent := ⟨1, true, [], "a", []⟩
    let h := [(10, [(2, [e])]), (20, [(2, [d, e]), (3, [e, e])])]
    (runTxns h {}).itemsOf 2 = 1 ∧ (runTxns h {}).itemsOf 3 = 1 := by decide +kernel

/-- one element of a batch adds one to the ids counted for its dataset exactly when it is the first version of its id there. -/
theorem items_step (S : Spec) (ds t i : Nat) (e : Ent) :
    ((specOne ds t S (i, e)).ids ds).length = (S.ids ds).length + (if S.vers ds e.rid = [] then 1 else 0) := by
  rw [specOne_ids]
  by_cases h : S.vers ds e.rid = [] <;> simp [h]

/-- T-C19-1 (catalogue): after every history of create / delete / rename / re-create, a name is
listed iff its meta entity is live; names that were deleted or renamed away have a deleted meta
entity; no two listed names share an internal id. -/
theorem catalogue (ops : List Op) (n : String) :
    ((run ops).live.lookup n).isSome ↔ (run ops).metas.lookup n = some false :=
  (rinv_run ops).liveMeta n

/-- T-C07-3 / C19 (fresh ids): every listed dataset has an id below the persisted next id, never an
id of a deleted dataset, and ids are never shared — so a re-created name starts empty. -/
theorem fresh_ids (ops : List Op) :
    (∀ p ∈ (run ops).live, p.2 < (run ops).nextId ∧ p.2 ∉ (run ops).deleted)
    ∧ ((run ops).live.map (·.2)).Nodup ∧ ∀ d ∈ (run ops).deleted, d < (run ops).nextId :=
  ⟨fun p hp => ⟨(rinv_run ops).idsBelow p hp, (rinv_run ops).liveNotDeleted p hp⟩,
   (rinv_run ops).idsNodup, (rinv_run ops).delBelow⟩

open Hub.Facts.Layout in
/-- an id is counted when it has no version in the dataset yet, before the skip test (`countNew` in `writeOne`); the counter is
written by `updateDataset`, the last step of a store call. -/
theorem facts_shape :
    newItemsCond = ["prevEntity == nil", "isnew"]
    ∧ skipCond = ["!isnew && !isDifferent && !isDifferentLocally"]
    ∧ storeSteps = ["ds.WriteLock.Lock", "time.Sleep", "time.Now().UnixNano", "ds.StoreEntitiesWithTransaction", "ds.store.commitIDTxn", "txn.Commit", "ds.updateDataset"] := ⟨rfl, rfl, rfl⟩

/-- the counter is a read-modify-write of the meta-entity; both writers of it (a batch's
`updateDataset` and a rename's copy to the new name) run under the dataset's write lock, held from
before the read to after the write. -/
theorem facts_counter_lock :
    Hub.Facts.LockFacts.renameLock = ["ds.WriteLock.Lock()", "defer ds.WriteLock.Unlock()", "rename-branch"]
    ∧ Hub.Facts.LockFacts.metaUpdateUnderLock = "updateDataset-before-unlock"
    ∧ Hub.Facts.LockFacts.storeLock = ["ds.WriteLock.Lock()", "defer:ds.WriteLock.Unlock()"] := ⟨rfl, rfl, rfl⟩

-- non-vacuity: create, delete, re-create and rename
example : let r := run [.create "a", .create "b", .delete "a", .create "a", .rename "b" "c"]
    r.live = [("c", 2), ("a", 3)] ∧ r.deleted = [1] ∧ r.metas.lookup "b" = some true ∧ r.metas.lookup "a" = some false := by decide +kernel
example : let e1 : Ent := ⟨1, false, [], "a", []⟩;
    let e2 : Ent := ⟨2, false, [], "a", []⟩
    (storeBatch (storeBatch {} 2 10 [e1, e1, e2]) 2 20 [e1, e2]).itemsOf 2 = 2 := by decide +kernel

end Hub.C19
