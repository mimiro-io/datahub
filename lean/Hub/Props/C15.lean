import Hub.Proofs.Parser
import Hub.Generated.ParserFacts
/-!
# C15 — what is POSTed is what is GET back; malformed payloads are rejected

The round trip of `Hub/Proofs/Parser.lean` specialised to the stream loop, and each malformed input rejected. The round trip is
about the elements after the context (`pElems`) for any resolver `res`; that `parseStream` reads a well-formed context and hands
its resolver on is left to the correspondence.
"Never a panic" is about the Go runtime and no theorem here: the model is total over arbitrary token lists, the regenerated
facts check that streamparser.go has no unchecked type assertion, and the correspondence runs the real parser on mutated bytes.
-/
namespace Hub.C15
open Hub.Parser

variable (res : String → Except String String)

/-- an element of a collection is an entity (not a scalar or an array). -/
def isEnt : V → Bool
  | .ent .. => true
  | _ => false

/-- **round trip, value level**: the parser applied to the serialisation of any value tree (nested entities and
arrays to any depth) followed by anything returns exactly its denotation under the payload's context and leaves the
rest untouched. -/
theorem value_roundtrip (v v' : V) (f : Nat) (r : List Tok) (h : exp res v = some v')
    (hf : (toks v).length ≤ f) : pValue res (f + 1) (toks v ++ r) = .ok (some v', r) :=
  (rtV res v v' f r h hf).1

theorem eq_ent_of_isEnt : ∀ {e : V}, isEnt e = true → ∃ id del p rf, e = .ent id del p rf
  | .ent id del p rf, _ => ⟨id, del, p, rf, rfl⟩

/-- **round trip, stream level**: a run of well-formed entities is emitted as exactly their
denotations, in order, whatever follows them in the stream (more entities, the closing bracket, or
garbage) — the parser then continues with what follows. -/
theorem elems_wellformed_prefix : ∀ (es es' : List V) (f : Nat) (acc : List V) (rest : List Tok),
    expL res es = some es' → (∀ e ∈ es, isEnt e = true) → (toksL es).length ≤ f →
    pElems res (f + es.length) acc (toksL es ++ rest) = pElems res f (acc ++ es') rest := by
  intro es es' f acc rest h hent hf
  induction es generalizing es' acc with
  | nil => cases h; rw [List.append_nil]; rfl
  | cons e es ih =>
    obtain ⟨id, del, p, rf, rfl⟩ := eq_ent_of_isEnt (hent e (List.mem_cons_self ..))
    obtain ⟨e1, es1, he, hes, rfl⟩ := expL_cons_some h
    simp only [toksL, List.append_assoc, List.length_cons, List.length_append] at hf ⊢
    obtain ⟨ts, eq, hE⟩ := rtE res he (rtP res p) (f := f + es.length) (by omega) (toksL es ++ rest)
    rw [eq, ← Nat.add_assoc, pElems_lb hE, ih es1 _ hes (fun x hx => hent x (List.mem_cons_of_mem _ hx))
      (by omega), List.append_assoc]; rfl

/-- **a whole well-formed collection**: after the context, `e₁ … eₙ ]` emits exactly the n denotations
and ends without an error. -/
theorem collection_roundtrip (es es' : List V) (h : expL res es = some es')
    (hent : ∀ e ∈ es, isEnt e = true) (f : Nat) (hf : (toksL es).length ≤ f) :
    pElems res (f + 2 + es.length) [] (toksL es ++ [.ra]) = { emitted := es', err := none } := by
  -- fuel: `es.length` for the loop's steps, `f` inside the entities; of the 2 left one reads the `]`, the other is slack
  rw [elems_wellformed_prefix res es es' (f + 2) [] [.ra] h hent (by omega)]; rfl

/-- **a malformed element stores nothing and stops the stream**: if the element after n well-formed
entities is rejected by the entity parser, exactly the n entities before it have been emitted, the
error is reported, and nothing after it is looked at. -/
theorem malformed_element_rejected (es es' : List V) (h : expL res es = some es')
    (hent : ∀ e ∈ es, isEnt e = true) (f : Nat) (hf : (toksL es).length ≤ f)
    (bad rest : List Tok) (msg : String) (hbad : pEntity res f {} (bad ++ rest) = .error msg) :
    pElems res (f + 1 + es.length) [] (toksL es ++ (.lb :: bad ++ rest)) = { emitted := es', err := some msg } := by
  rw [elems_wellformed_prefix res es es' (f + 1) [] (.lb :: bad ++ rest) h hent (by omega)]
  simp only [List.nil_append, List.cons_append, pElems, hbad]

/-- a truncated stream (no closing bracket) is an error, with the complete entities before the cut emitted. -/
theorem truncated_stream_is_error (es es' : List V) (h : expL res es = some es')
    (hent : ∀ e ∈ es, isEnt e = true) (f : Nat) (hf : (toksL es).length ≤ f) :
    (pElems res (f + 1 + es.length) [] (toksL es ++ [])).err = some "unexpected end of stream"
    ∧ (pElems res (f + 1 + es.length) [] (toksL es ++ [.bad])).err = some "bad token" := by
  rw [elems_wellformed_prefix res es es' (f + 1) [] [] h hent (by omega),
      elems_wellformed_prefix res es es' (f + 1) [] [.bad] h hent (by omega)]
  exact ⟨rfl, rfl⟩

/-- anything after the closing bracket of the collection is an error: a second array or a bare object after it is not
parsed (defect D27). -/
theorem trailing_data_rejected (es es' : List V) (h : expL res es = some es')
    (hent : ∀ e ∈ es, isEnt e = true) (f : Nat) (hf : (toksL es).length ≤ f) (t : Tok) (rest : List Tok) :
    pElems res (f + 1 + es.length) [] (toksL es ++ .ra :: t :: rest)
      = { emitted := es', err := some "unexpected data after the end of the entity array" } := by
  rw [elems_wellformed_prefix res es es' (f + 1) [] (.ra :: t :: rest) h hent (by omega)]; rfl

/-! ## wrongly typed members are rejected (for every entity prefix parsed so far and every fuel): instances of the member
equations `pEntity_id` … of `Hub/Proofs/Parser.lean` -/

theorem id_must_be_string (f : Nat) (a : Acc) (t : Tok) (r : List Tok) (h : ∀ s, t ≠ .str s) :
    pEntity res (f + 1) a (.str "id" :: t :: r) = .error "id must be a string" := by
  rw [pEntity_id]; split
  · next heq => exact absurd (List.cons.inj heq).1 (h _)
  · rfl

theorem deleted_must_be_bool (f : Nat) (a : Acc) (t : Tok) (r : List Tok) (h : ∀ b, t ≠ .bool b) :
    pEntity res (f + 1) a (.str "deleted" :: t :: r) = .error "deleted must be a boolean" := by
  rw [pEntity_deleted]; split
  · next heq => exact absurd (List.cons.inj heq).1 (h _)
  · rfl

theorem recorded_must_be_number (f : Nat) (a : Acc) (t : Tok) (r : List Tok) (h : ∀ n, t ≠ .num n) :
    pEntity res (f + 1) a (.str "recorded" :: t :: r) = .error "recorded must be a number" := by
  rw [pEntity_recorded]; split
  · next heq => exact absurd (List.cons.inj heq).1 (h _)
  · rfl

/- `f + 2` here, `f + 1` for `refs`: `pProps` matches on its fuel before it looks at the token, `pRefs` does not. -/
theorem props_must_be_object (f : Nat) (a : Acc) (t : Tok) (r : List Tok) (h : t ≠ .lb) :
    ∃ msg, pEntity res (f + 2) a (.str "props" :: t :: r) = .error msg :=
  ⟨_, by rw [pEntity_props]; cases t <;> first | rfl | exact absurd rfl h⟩

theorem refs_must_be_object (f : Nat) (a : Acc) (t : Tok) (r : List Tok) (h : t ≠ .lb) :
    ∃ msg, pEntity res (f + 1) a (.str "refs" :: t :: r) = .error msg :=
  ⟨_, by rw [pEntity_refs]; cases t <;> first | rfl | exact absurd rfl h⟩

/-- a reference value is a string or an array of strings: an object, number, boolean or null is rejected. -/
theorem ref_value_must_be_string_or_array (f : Nat) (t : Tok) (r : List Tok)
    (h1 : ∀ s, t ≠ .str s) (h2 : t ≠ .la) : ∃ msg, pRefValue res f (t :: r) = .error msg := by
  cases t <;> first | exact ⟨_, rfl⟩ | exact absurd rfl h2 | exact absurd rfl (h1 _)

/-- `token` is only accepted inside the continuation element. -/
theorem token_only_in_continuation (f : Nat) (a : Acc) (r : List Tok) (h : a.cont = false) :
    pEntity res (f + 1) a (.str "token" :: r) = .error "token property found but not a continuation entity" := by
  show ite _ _ _ = _; simp only [String.reduceEq, ↓reduceIte, h, Bool.false_eq_true]

/-- the namespaces of the context must be an object of strings. -/
theorem namespaces_must_be_strings (l : List (String × Option String)) (h : ∃ kv ∈ l, kv.2 = none) :
    ∃ msg, readNs (.obj l) = .error msg := by
  obtain ⟨kv, hm, hn⟩ := h
  have : l.any (·.2.isNone) = true := List.any_eq_true.2 ⟨kv, hm, by simp [hn]⟩
  exact ⟨"namespace expansion must be a string", by simp [readNs, this]⟩

theorem namespaces_must_be_object : ∃ msg, readNs .other = .error msg := ⟨_, rfl⟩

/-- a document whose first element is not an object (so not a context) is rejected with nothing emitted. -/
theorem no_context_rejected (t : Tok) (r : List Tok) (h : t ≠ .lb) :
    (parseStream (.la :: t :: r)).emitted = [] ∧ (parseStream (.la :: t :: r)).err ≠ none := by
  -- every first element but `{` takes the branch `.la :: _` of `parseStream`
  cases t <;> first | exact absurd rfl h | exact ⟨rfl, nofun⟩

open Hub.Facts.ParserFacts in
/-- what the model takes from streamparser.go: all type assertions checked (an error branch, no panic branch); `pEntity`'s
member keys, `skipValue` for the rest; emit after the error check; EOF test after `]`; the typed members; null properties dropped. -/
theorem facts_shape :
    uncheckedTypeAssertions = 0 ∧ typeAssertions = 23
    ∧ indexedObjects = ["context", "e.Properties", "esp.localNamespaces", "esp.localPropertyMappings", "props", "refs", "txn.DatasetEntities"]
    ∧ entityKeys = ["id", "recorded", "deleted", "props", "refs", "token"] ∧ unknownKey = "skipValue"
    ∧ emitSteps = ["e, err := esp.parseEntity(decoder)", "if err != nil { return errors.New(\"parsing error: Unable to ", "err = emitEntity(e)", "if err != nil { return err }"]
    ∧ closingSteps = ["if _, err = decoder.Token(); err != io.EOF { retur", "return nil"]
    ∧ typedMembers = ["idVal:string", "recorded:float64", "deleted:bool"]
    ∧ nullPropDropped = true := ⟨rfl, rfl, rfl, rfl, rfl, rfl, rfl, rfl, rfl⟩

def sampleRes : String → Except String String := resolve [("a", "http://a/"), ("_", "http://d/")]
def sample : V := .ent "a:1" false [("a:p", .arr [.num "1", .ent "x" true [] [], .arr [.str "s"]]), ("q", .bool true)]
    [("a:r", .one "a:2"), ("a:s", .many ["a:3", "http://z/9"])]

example : exp sampleRes sample = some (.ent "http://a/1" false
    [("http://a/p", .arr [.num "1", .ent "http://d/x" true [] [], .arr [.str "s"]]), ("http://d/q", .bool true)]
    [("http://a/r", .one "http://a/2"), ("http://a/s", .many ["http://a/3", "http://z/9"])]) := by rfl

end Hub.C15
