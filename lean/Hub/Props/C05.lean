import Hub.Proofs.Locks
import Hub.Proofs.SortBy
import Hub.Model.LockOrder
import Hub.Generated.LockFacts
/-!
# C05 — concurrent writers serialize per dataset, are atomically visible, never deadlock

Progress of the lock protocol (`Hub/Proofs/Locks.lean`); every operation of `Hub/Model/LockOrder.lean` takes its locks in
ascending rank.
-/
namespace Hub.C05
open Hub.Locks Hub.LockOrder

/-- T-C05-1 (ordered locking never deadlocks): any number of threads and locks; if every thread takes its locks in strictly
ascending rank order then, as long as some thread is unfinished, some thread can take a step. -/
theorem ordered_locking_no_deadlock (ts : List Thread) (hord : ∀ t ∈ ts, t.ordered)
    (hun : ∃ t ∈ ts, ¬ t.finished) : ∃ t ∈ ts, canStep ts t := progress ts hord hun

theorem insertSorted_eq (x : Nat) : ∀ l, insertSorted x l = Store.insertBy (fun a b => decide (a ≤ b)) x l
  | [] => rfl
  | y :: ys => by simp [insertSorted, Store.insertBy, insertSorted_eq x ys]

theorem sortNat_eq (l : List Nat) : sortNat l = Store.sortBy (fun a b => decide (a ≤ b)) l := by
  simp only [sortNat, Store.sortBy, insertSorted_eq]

theorem sortNat_perm (l : List Nat) : (sortNat l).Perm l := sortNat_eq l ▸ SortBy.sortBy_perm _ l

theorem sortNat_sorted (l : List Nat) : (sortNat l).Pairwise (· ≤ ·) :=
  sortNat_eq l ▸ SortBy.sortBy_pairwise (R := (· ≤ ·)) (fun _ _ h => of_decide_eq_true h)
    (fun _ _ h => Nat.le_of_not_le (of_decide_eq_false h)) (fun _ _ _ h => Nat.le_trans (of_decide_eq_true h)) l

/-- T-C05-2 (single-dataset and management operations take their locks in ascending rank). -/
theorem lockseq_ascending_simple (d : Nat) (hd : d < 999999) :
    ascending (lockSeq true (.store d)) ∧ ascending (lockSeq true .create) ∧ ascending (lockSeq true .delete)
    ∧ ascending (lockSeq true (.rename d)) := by
  -- all that is left is `d + 1 < 1000000`: a dataset ranks `d + 1`, `core.Dataset` 1000000
  simp [ascending, lockSeq, Lock.rank]; omega

/-- T-C05-2, transactions: so does a transaction that sorts the datasets it names, however many. -/
theorem lockseq_ascending_txn (ds : List Nat) (hnd : ds.Nodup) (hlt : ∀ d ∈ ds, d < 999999) :
    ascending (lockSeq true (.txn ds)) := by
  have hperm := sortNat_perm ds
  have hs : (sortNat ds).Pairwise (· < ·) :=
    ((sortNat_sorted ds).and (hperm.nodup_iff.2 hnd)).imp fun ⟨h1, h2⟩ => Nat.lt_of_le_of_ne h1 h2
  simp only [ascending, lockSeq, List.pairwise_append, List.pairwise_map]
  refine ⟨hs.imp Nat.succ_lt_succ, List.pairwise_singleton _ _, fun a ha b hb => ?_⟩
  obtain ⟨d, hd, rfl⟩ := List.mem_map.1 ha
  have := hlt d (hperm.mem_iff.1 hd)
  cases List.mem_singleton.1 hb
  show d + 1 < 1000000
  omega

/-- two datasets: the ABBA case. -/
theorem lockseq_ascending_txn2 (a b : Nat) (hab : a ≠ b) (ha : a < 999999) (hb : b < 999999) :
    ascending (lockSeq true (.txn [a, b])) ∧ ascending (lockSeq true (.txn [b, a])) :=
  ⟨lockseq_ascending_txn _ (List.pairwise_pair.2 hab) (List.forall_mem_cons.2 ⟨ha, List.forall_mem_singleton.2 hb⟩),
   lockseq_ascending_txn _ (List.pairwise_pair.2 hab.symm) (List.forall_mem_cons.2 ⟨hb, List.forall_mem_singleton.2 ha⟩)⟩

/-- without the sort (Go map iteration order) two transactions over {a, b} can take the locks in opposite orders
(D20, fixed). -/
theorem unsorted_txn_not_ascending : ¬ ascending (lockSeq false (.txn [2, 1])) := by
  unfold ascending; decide

/-- a deadlocked state exists for two threads that take two locks in opposite orders. -/
theorem abba_deadlocks :
    let ts : List Thread := [⟨[1], [2]⟩, ⟨[2], [1]⟩]
    (∃ t ∈ ts, ¬ t.finished) ∧ ¬ ∃ t ∈ ts, canStep ts t := by
  refine ⟨⟨_, List.mem_cons_self, fun h => nomatch h.1⟩, ?_⟩
  rintro ⟨t, ht, hc⟩
  simp only [List.mem_cons, List.mem_nil_iff, or_false] at ht
  rcases ht with rfl | rfl
  · exact blocked rfl (List.mem_cons_of_mem _ List.mem_cons_self) List.mem_cons_self hc
  · exact blocked rfl List.mem_cons_self List.mem_cons_self hc

open Hub.Facts.LockFacts in
/-- what `lockSeq` takes from the code: the transaction sorts before it locks (`sorted = true`), `core.Dataset` last; the meta
update happens inside the dataset's lock; the manager's operations take `dsm.lock` first; `idmux` is a leaf. -/
theorem facts_shape :
    txnLockLoop = "sorted" ∧ txnLocksBeforeTime = true ∧ txnUnlock = "deferred"
    -- core.Dataset is moved behind the sorted names and its lock given back after the data commit, before the counter
    -- updates (D36: the transaction waited for itself there)
    ∧ txnCoreLock = ["datasetNames = append(datasetNames, k)", "if k == \"core.Dataset\"",
        "datasetNames = append(append(datasetNames[:i:i], datasetNames[i+1:]...), k)", "coreLocked := false", "if k == \"core.Dataset\"",
        "coreLocked = true", "if coreLocked", "if coreLocked", "datasets[\"core.Dataset\"].WriteLock.Unlock()", "coreLocked = false"]
    ∧ storeLock = ["ds.WriteLock.Lock()", "defer:ds.WriteLock.Unlock()"]
    ∧ dsmLocks = ["CreateDataset:dsm.lock.Lock()", "UpdateDataset:dsm.lock.Lock()", "UpdateDataset:ds.WriteLock.Lock()", "DeleteDataset:dsm.lock.Lock()"]
    ∧ idmuxLeaf = ["commitIDTxn:s.idmux.Lock()", "assertIDForURI:s.idmux.Lock()"]
    ∧ metaUpdateUnderLock = "updateDataset-before-unlock"
    ∧ renameLock = ["ds.WriteLock.Lock()", "defer ds.WriteLock.Unlock()", "rename-branch"]
    ∧ singleDataTxn = 1 := ⟨rfl, rfl, rfl, rfl, rfl, rfl, rfl, rfl, rfl, rfl⟩

end Hub.C05
