import Hub.Proofs.Frame
import Hub.Generated.Gc
/-!
# C07 — deleting a dataset hides all its data everywhere, at once and for good

Model: `Hub/Model/Store.lean` (`markDeleted`, `eraseDs`, `gc`). That a re-created name gets a fresh id, and so starts
empty, is `Hub.C19.fresh_ids`.
-/
namespace Hub.C07
open Hub.Store

theorem delete_hides_lookup (db : DB) (d rid at_ : Nat) (scope : List Nat) :
    visibleVersions (markDeleted db d) rid at_ scope = visibleVersions (eraseDs db [d]) rid at_ scope := by
  unfold visibleVersions markDeleted eraseDs
  rw [List.filter_filter]
  refine congrArg _ (List.filter_congr fun v _ => ?_)
  by_cases hv : v.1.ds = d <;> simp [hv]

/-- T-C07-1 (delete hides, lookups and outgoing queries): after `DeleteDataset d` every as-of
lookup and every outgoing relationship query — any instant, scope, limit, continuation — answers
exactly as if all keys of `d` had been erased. -/
theorem delete_hides_partials (db : DB) (d rid at_ : Nat) (scope : List Nat) :
    partialsAt (markDeleted db d) rid at_ scope = partialsAt (eraseDs db [d]) rid at_ scope := by
  unfold partialsAt; rw [delete_hides_lookup]

/-- the outgoing query's whole answer, continuation key included. -/
theorem delete_hides_related (db : DB) (d src pred at_ limit : Nat) (scope : List Nat) (sk : Option RefKey) :
    relatedOut (markDeleted db d) src pred at_ limit scope sk
      = relatedOut { eraseDs db [d] with deletedDs := d :: db.deletedDs } src pred at_ limit scope sk := by
  apply Hub.Frame.relatedOut_congr
  · simp only [markDeleted, eraseDs, List.filter_filter, inScope]
    apply List.filter_congr
    intro r _
    by_cases hr : r.ds = d <;> simp [hr]
  · rfl

/-- T-C07-1, outgoing queries: the results. -/
theorem delete_hides_outgoing (db : DB) (d src pred at_ limit : Nat) (scope : List Nat) (sk : Option RefKey)
    (hd : db.deletedDs.contains d = false) :
    (relatedOut (markDeleted db d) src pred at_ limit scope sk).1
      = (relatedOut { eraseDs db [d] with deletedDs := d :: db.deletedDs } src pred at_ limit scope sk).1 := by
  rw [delete_hides_related]

/-- T-C07-2 (GC is exact): garbage collection removes, from each of the five key families (four lists
here: `refs` stands for both reference indexes), exactly the keys whose dataset id is in the deleted
set — no key of any other dataset. -/
theorem gc_exact (db : DB) :
    (∀ v, v ∈ (gc db).versions ↔ v ∈ db.versions ∧ v.1.ds ∉ db.deletedDs)
    ∧ (∀ c, c ∈ (gc db).changes ↔ c ∈ db.changes ∧ c.1 ∉ db.deletedDs)
    ∧ (∀ l, l ∈ (gc db).latest ↔ l ∈ db.latest ∧ l.1.1 ∉ db.deletedDs)
    ∧ (∀ r, r ∈ (gc db).refs ↔ r ∈ db.refs ∧ r.ds ∉ db.deletedDs) := by
  simp [gc, eraseDs, List.mem_filter]

/-- GC changes no observation: lookups already filter deleted datasets. -/
theorem gc_invisible_lookup (db : DB) (rid at_ : Nat) (scope : List Nat) :
    visibleVersions (gc db) rid at_ scope = visibleVersions db rid at_ scope := by
  unfold visibleVersions gc eraseDs
  rw [List.filter_filter]
  refine congrArg _ (List.filter_congr fun v _ => ?_)
  by_cases hv : v.1.ds ∈ db.deletedDs <;> simp [hv]

/-- T-C07-5 (other datasets are unaffected): a lookup scoped to datasets other than `d` does not
change when `d` is deleted (or its keys erased). -/
theorem others_unaffected (db : DB) (d rid at_ : Nat) (scope : List Nat) (hs : scope ≠ []) (hd : d ∉ scope) :
    visibleVersions (markDeleted db d) rid at_ scope = visibleVersions db rid at_ scope := by
  unfold visibleVersions markDeleted
  refine congrArg _ (List.filter_congr fun v _ => ?_)
  by_cases hv : v.1.ds = d
  · have hn : v.1.ds ∉ scope := hv ▸ hd
    simp [List.isEmpty_eq_false_iff.2 hs, hn]
  · simp [hv]

open Hub.Facts.Gc in
/-- GC selects the keys of the five families by the dataset id at its place in each layout (`eraseDs`); the durable steps of delete,
create (the next id is stored first) and rename (`Hub.Registry.step`); lookups and relation scans skip deleted datasets
(`visibleVersions`, `inScope`). -/
theorem facts_shape :
    gcSelectors = ["EntityIDToJSONIndexID:binary.BigEndian.Uint32(key[10:])", "DatasetEntityChangeLog:prefix6:deletedDsID",
        "DatasetLatestEntities:prefix6:deletedDsID", "OutgoingRefIndex:binary.BigEndian.Uint32(key[36:])",
        "IncomingRefIndex:binary.BigEndian.Uint32(key[36:])"]
    ∧ deleteSteps = ["dsm.store.datasets.Delete", "dsm.store.datasetsByInternalID.Delete", "dsm.store.deleteValueAndStoreObject", "dsm.storeEntity"]
    ∧ createSteps = ["dsm.store.storeValue", "dsm.store.storeValue", "dsm.store.datasets.Store", "dsm.store.datasetsByInternalID.Store", "dsm.storeEntity"]
    ∧ createFirstStore = "StoreNextDatasetIDBytes"
    ∧ renameSteps = ["dsm.store.moveValue", "dsm.store.datasets.Delete", "dsm.store.datasets.Store", "dsm.store.datasetsByInternalID.Store", "dsm.storeEntity", "dsm.storeEntity"]
    ∧ lookupDeletedFilter = ["at < recordedTime", "datasetDeleted || !datasetIncluded"]
    ∧ relatedDeletedFilter = ["s.deletedDatasets[datasetID] || !datasetIncluded", "s.deletedDatasets[datasetID] || !datasetIncluded"] := ⟨rfl, rfl, rfl, rfl, rfl, rfl, rfl⟩

-- non-vacuity: a deleted dataset, unscoped lookups, gc
example : let e : Ent := ⟨1, false, [(5, 2)], "a", []⟩
    let db := storeBatch (storeBatch {} 2 10 [e]) 3 20 [e]
    (partialsAt (markDeleted db 2) 1 99 []).1.length = 1 ∧ (partialsAt db 1 99 []).1.length = 2
    ∧ (gc (markDeleted db 2)).versions.length = 1
    ∧ (relatedOut (markDeleted db 3) 1 0 99 0 [] none).1 = [⟨5, 2, 2, 10⟩] := by decide +kernel

end Hub.C07
