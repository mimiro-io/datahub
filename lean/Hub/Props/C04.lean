import Hub.Model.Crash
import Hub.Model.Pipeline
import Hub.Generated.CrashPoints
import Hub.Generated.CrashFacts
/-!
# C04 — batches and transactions are all-or-nothing and durable across a crash

What a crash after any prefix of a call's durable steps leaves on disk (`crashAt`, `Hub/Model/Crash.lean`), and the lease
automaton of a sequence (`SeqInv`, `bound`). The order of the steps is a regenerated fact (`Hub.Facts.Crash`, written by
`tools/instr`, which also inserts the crash points the harness kills the hub at).
-/
namespace Hub.C04
open Hub.Crash

theorem crashAt_data (steps : List Step) (p : Pending) (d : Disk) (k : Nat) :
    (crashAt steps p d k).data = d.data ++ List.replicate ((steps.take k).count .dataCommit) p.batch := by
  unfold crashAt
  generalize steps.take k = l
  induction l generalizing d with
  | nil => simp
  | cons s l ih =>
    rw [List.foldl_cons, ih]
    cases s <;> simp [apply, List.replicate_succ]

/-- **all-or-nothing**: when the keys of a batch (of all datasets of a transaction) are committed by one data step, a
crash at any point leaves the committed data as it was or with the whole batch appended. -/
theorem all_or_nothing (steps : List Step) (h1 : steps.count .dataCommit ≤ 1) (p : Pending) (d : Disk) (k : Nat) :
    (crashAt steps p d k).data = d.data ∨ (crashAt steps p d k).data = d.data ++ [p.batch] := by
  rw [crashAt_data]
  have hle : (steps.take k).count .dataCommit ≤ steps.count .dataCommit :=
    (List.take_sublist k steps).count_le _
  have : (steps.take k).count .dataCommit = 0 ∨ (steps.take k).count .dataCommit = 1 := by omega
  rcases this with h | h <;> rw [h] <;> simp

/-- **acknowledged ⇒ present**: a call that returned (all steps done) has its batch on disk. -/
theorem acknowledged_present (steps : List Step) (h1 : steps.count .dataCommit = 1) (p : Pending) (d : Disk) (k : Nat)
    (hk : steps.length ≤ k) : (crashAt steps p d k).data = d.data ++ [p.batch] := by
  rw [crashAt_data, List.take_of_length_le hk, h1]; simp

theorem crashAt_ids (steps : List Step) (p : Pending) (d : Disk) (k : Nat) (i : Nat) :
    i ∈ (crashAt steps p d k).ids ↔ i ∈ d.ids ∨ (.idCommit ∈ steps.take k ∧ i ∈ p.newIds) := by
  unfold crashAt
  generalize steps.take k = l
  induction l generalizing d with
  | nil => simp
  | cons s l ih =>
    rw [List.foldl_cons, ih]
    cases s with
    | idCommit =>
      -- `simp` leaves: a new id committed again by a later id commit is on disk already
      simp [apply]
      exact fun _ h => Or.inr h
    | _ => simp [apply]

/-- **ids before data**: if the id transaction is committed before the data transaction, then at every crash point every
internal id mentioned by committed data has its committed uri↔id row. -/
theorem ids_before_data (steps : List Step)
    (horder : ∀ k, .dataCommit ∈ steps.take k → .idCommit ∈ steps.take k)
    (p : Pending) (d : Disk) (hd : IdsCover d)
    (hb : ∀ i ∈ p.batch, i ∈ d.ids ∨ i ∈ p.newIds) (k : Nat) : IdsCover (crashAt steps p d k) := by
  intro b hbm i hi
  rw [crashAt_ids]
  rw [crashAt_data] at hbm
  rcases List.mem_append.1 hbm with h | h
  · exact Or.inl (hd b h i hi)
  · obtain ⟨hn, rfl⟩ := List.mem_replicate.1 h
    exact (hb i hi).imp_right fun h => ⟨horder k (List.count_pos_iff.1 (Nat.pos_of_ne_zero hn)), h⟩

def writeSteps : List Step := [.prepare, .idCommit, .dataCommit, .metaUpdate]

open Hub.Facts.Crash in
/-- the callees at the crash points `tools/instr` finds: both calls run `writeSteps`. -/
theorem facts_step_order :
    stepsOf callees_StoreEntities = [.prepare, .idCommit, .dataCommit, .metaUpdate]
    ∧ stepsOf callees_ExecuteTransaction = [.prepare, .idCommit, .dataCommit, .metaUpdate] := by decide

/-- `horder` of `ids_before_data` for a list split at its first id commit. -/
theorem order_of_split {pre post : List Step} (hpre : .dataCommit ∉ pre) (k : Nat)
    (h : .dataCommit ∈ (pre ++ .idCommit :: post).take k) : .idCommit ∈ (pre ++ .idCommit :: post).take k := by
  rw [List.take_append] at h ⊢
  rcases List.mem_append.1 h with h | h
  · exact absurd (List.mem_of_mem_take h) hpre
  · cases hk : k - pre.length with
    | zero => rw [hk] at h; cases h
    | succ n => exact List.mem_append_right _ List.mem_cons_self

theorem writeSteps_order : ∀ k, Step.dataCommit ∈ writeSteps.take k → Step.idCommit ∈ writeSteps.take k :=
  order_of_split (pre := [.prepare]) (post := [.dataCommit, .metaUpdate]) (by decide)

open Hub.Facts.Crash in
/-- **C04 for the hub's write calls** (`StoreEntities`, `ExecuteTransaction` as they are in the source): every crash point
leaves the batch entirely absent or entirely present, a returned call is present, and no committed key mentions an
internal id without a committed uri↔id row. -/
theorem write_calls_atomic (p : Pending) (d : Disk) (hd : IdsCover d) (hb : ∀ i ∈ p.batch, i ∈ d.ids ∨ i ∈ p.newIds) (k : Nat) :
    let s1 := stepsOf callees_StoreEntities
    let s2 := stepsOf callees_ExecuteTransaction
    (∀ s ∈ [s1, s2], ((crashAt s p d k).data = d.data ∨ (crashAt s p d k).data = d.data ++ [p.batch])
        ∧ (s.length ≤ k → (crashAt s p d k).data = d.data ++ [p.batch])
        ∧ IdsCover (crashAt s p d k)) := by
  intro s1 s2 s hs
  obtain rfl : s = writeSteps := by
    rw [show s1 = writeSteps from facts_step_order.1, show s2 = writeSteps from facts_step_order.2] at hs
    simpa using hs
  exact ⟨all_or_nothing _ (by decide) p d k, fun hk => acknowledged_present _ (by decide) p d k hk,
    ids_before_data _ writeSteps_order p d hd hb k⟩

open Hub.Facts.CrashFacts Hub.Pipe in
/-- one data transaction per call: created once, outside every loop, it receives every key the write loop produces and is
committed once, after the unconditional commit of the id transaction; every failing step leaves the function. -/
theorem facts_one_transaction :
    proj ["ds.store.database.NewTransaction", "ds.StoreEntitiesWithTransaction", "ds.store.commitIDTxn", "txn.Commit", "ds.updateDataset", "for {", "if len(entities) == 0 {"]
        skeleton_StoreEntities
      = ["if len(entities) == 0 {", "ds.store.database.NewTransaction", "ds.StoreEntitiesWithTransaction", "ds.store.commitIDTxn", "txn.Commit", "ds.updateDataset"]
    ∧ skeleton_ExecuteTransaction.dropWhile (· != "s.database.NewTransaction")
      = ["s.database.NewTransaction", "defer {", "txn.Discard", "}", "for {", "ds.StoreEntitiesWithTransaction", "ret-on-err", "}",
         "s.commitIDTxn", "ret-on-err", "txn.Commit", "ret-on-err",
         -- core.Dataset's lock is released after the data commit, before the counter updates
         "if coreLocked {", "datasets[\"core.Dataset\"].WriteLock.Unlock", "}",
         "for {", "if !ok {", "return", "}", "ds.(*Dataset).updateDataset", "ret-on-err", "}", "return"]
    ∧ errChecked "ds.StoreEntitiesWithTransaction" skeleton_StoreEntities = true
    ∧ errChecked "ds.store.commitIDTxn" skeleton_StoreEntities = true
    ∧ errChecked "txn.Commit" skeleton_StoreEntities = true
    ∧ writeLoopReceivers = ["txn"]
    ∧ writeLoopTransactions = ["ds.store.database.NewTransaction(false)"]
    ∧ writeLoopParams = ["entities []*Entity", "txnTime int64", "txn *badger.Txn"]
    ∧ commitIDTxnBody = ["s.idmux.Lock()", "defer s.idmux.Unlock()", "o := s.idTxnOwner()", "if o.idtxn == nil { return nil }", "err := o.idtxn.Commit()",
        "if err != nil { return err }", "o.idtxn = nil", "return nil"] := ⟨by decide, by decide, by decide, by decide, by decide, rfl, rfl, rfl, rfl⟩

-- non-vacuity: a crash between the two commits, and one after
example : (crashAt writeSteps { newIds := [7], batch := [7, 3] } { ids := [3] } 2) = { ids := [3, 7], data := [], metaN := 0 } := by decide
example : (crashAt writeSteps { newIds := [7], batch := [7, 3] } { ids := [3] } 3).data = [[7, 3]] := by decide

/-- the order matters: with the data committed first, a crash in between leaves keys whose ids have no uri↔id row. -/
theorem data_before_ids_breaks_cover :
    ¬ IdsCover (crashAt [.prepare, .dataCommit, .idCommit] { newIds := [7], batch := [7] } {} 2) := by
  unfold IdsCover; decide

/-- the in-memory lease `(next, leased)` is in order and covered by the stored one. -/
def SeqInv (s : Seq) : Prop :=
  0 < s.bw ∧ match s.mem with
  | none => True
  | some (n, l) => n ≤ l ∧ l ≤ s.disk

/-- the number above everything handed out so far. -/
def bound (s : Seq) : Nat := match s.mem with | none => s.disk | some (n, _) => n

theorem seq_step (s : Seq) (hs : SeqInv s) (op : SeqOp) :
    SeqInv (s.step op).1 ∧ bound s ≤ bound (s.step op).1 ∧ ∀ x, (s.step op).2 = some x → bound s ≤ x ∧ x < bound (s.step op).1 := by
  obtain ⟨bw, disk, mem⟩ := s
  have hbw : 0 < bw := hs.1
  have hm := hs.2
  -- what was handed out so far lies below the stored lease
  have hb : bound ⟨bw, disk, mem⟩ ≤ disk := by
    rcases mem with _ | ⟨n, l⟩
    · exact Nat.le_refl _
    · exact Nat.le_trans hm.1 hm.2
  cases op with
  | «open» => exact ⟨⟨hbw, Nat.le_add_right _ _, Nat.le_refl _⟩, hb, nofun⟩
  | crash => exact ⟨⟨hbw, trivial⟩, hb, nofun⟩
  | release =>
    rcases mem with _ | ⟨n, l⟩
    · exact ⟨⟨hbw, hm⟩, Nat.le_refl _, nofun⟩
    · exact ⟨⟨hbw, trivial⟩, Nat.le_refl _, nofun⟩
  | next =>
    rcases mem with _ | ⟨n, l⟩
    · exact ⟨⟨hbw, hm⟩, Nat.le_refl _, nofun⟩
    · obtain ⟨h1, h2⟩ : n ≤ l ∧ l ≤ disk := hm
      have out : ∀ x, some n = some x → n ≤ x ∧ x < n + 1 := fun x hx => by cases hx; exact ⟨Nat.le_refl _, Nat.lt_succ_self _⟩
      simp only [Seq.step]
      split
      · exact ⟨⟨hbw, Nat.succ_le_of_lt ‹_›, h2⟩, Nat.le_succ n, out⟩
      · exact ⟨⟨hbw, Nat.add_le_add (Nat.le_trans h1 h2) hbw, Nat.le_refl _⟩, Nat.le_succ n, out⟩

/-- **no reuse**: over any history of opens, `Next` calls, graceful closes and crashes, the numbers a sequence hands out
are strictly increasing: none is handed out again after a restart. -/
theorem seq_no_reuse : ∀ (ops : List SeqOp) (s : Seq), SeqInv s →
    (∀ x ∈ (s.run ops).2, bound s ≤ x) ∧ (s.run ops).2.Pairwise (· < ·)
  | [], s, _ => ⟨nofun, .nil⟩
  | op :: ops, s, hs => by
    obtain ⟨h1, h2, h3⟩ := seq_step s hs op
    obtain ⟨ih1, ih2⟩ := seq_no_reuse ops (s.step op).1 h1
    have ih1' : ∀ x ∈ ((s.step op).1.run ops).2, bound s ≤ x := fun x hx => Nat.le_trans h2 (ih1 x hx)
    simp only [Seq.run]
    cases hr : (s.step op).2 with
    | none => exact ⟨ih1', ih2⟩
    | some y =>
      obtain ⟨hy1, hy2⟩ := h3 y hr
      exact ⟨List.forall_mem_cons.2 ⟨hy1, ih1'⟩,
        List.pairwise_cons.2 ⟨fun x hx => Nat.lt_of_lt_of_le hy2 (ih1 x hx), ih2⟩⟩

theorem seq_init (bw : Nat) (h : 0 < bw) : SeqInv { bw := bw } := ⟨h, trivial⟩

open Hub.Facts.CrashFacts in
/-- change positions come from a Sequence opened per batch and released by a deferred call at its end, internal ids
from one opened with the store and released on close. -/
theorem facts_sequences :
    writeLoopSequence = ["GetSequence bandwidth 1000", "defer logseq.Release", "logseq.Next"]
    ∧ idSequence = ["Close: s.idseq.Release", "assertIDForURI: s.idseq.Next"] := ⟨rfl, rfl⟩

-- non-vacuity: the crash skips 2, the release resumes exactly
example : (({ bw := 3 } : Seq).run [.open, .next, .next, .crash, .open, .next, .release, .open, .next]).2 = [0, 1, 3, 4] := by decide

end Hub.C04
