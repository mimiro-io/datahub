import Hub.Model.FullSync
import Hub.Generated.FullSync
/-!
# C09 — a full sync deletes exactly what the completed sync did not contain

The invariant `Inv` of a dataset's full-sync state, kept by every event, and the property theorems it gives.
-/
namespace Hub.C09
open Hub.FullSync

theorem mem_addLive {l es : List Nat} {x : Nat} : x ∈ addLive l es ↔ x ∈ l ∨ x ∈ es := by
  unfold addLive
  induction es generalizing l with
  | nil => simp
  | cons e es ih =>
    rw [List.foldl_cons, ih, List.mem_cons]
    split
    · have he : e ∈ l := List.contains_iff_mem.1 ‹_›
      constructor
      · exact Or.imp_right Or.inr
      · rintro (h | rfl | h)
        · exact .inl h
        · exact .inl he
        · exact .inr h
    · rw [List.mem_append, List.mem_singleton, or_assoc]

/-- while a sync is started: what is recorded as seen is exactly what was written since its
start, all of it is live, and a lease is only ever armed for a started sync. -/
structure Inv (s : St) : Prop where
  seen_since : s.started = true → ∀ x, x ∈ s.seen ↔ x ∈ s.since
  since_live : ∀ x, x ∈ s.since → x ∈ s.live
  lease_started : s.lease = true → s.started = true

theorem inv_init : Inv {} := ⟨by simp, by simp, by simp⟩

theorem write_inv {s : St} (h : Inv s) (es : List Nat) : Inv (s.write es) where
  seen_since hs x := by
    -- a write does not change `started`
    have hs : s.started = true := hs
    simp only [St.write, hs, if_true, mem_addLive, h.seen_since hs x]
  since_live x hx := by
    simp only [St.write, mem_addLive] at hx ⊢
    exact hx.imp_left (h.since_live x)
  lease_started := h.lease_started

theorem start_inv (s : St) : Inv s.start := ⟨fun _ _ => .rfl, nofun, fun _ => rfl⟩

theorem complete_of_idle {s : St} (h : s.started = false) : s.complete = (s, .err) := by
  simp [St.complete, h]

theorem complete_inv {s : St} (h : Inv s) : Inv s.complete.1 := by
  cases hst : s.started with
  | false => rwa [complete_of_idle hst]
  | true =>
    simp only [St.complete, hst]
    refine ⟨nofun, fun x hx => ?_, nofun⟩
    simpa using ⟨h.since_live x hx, (h.seen_since hst x).2 hx⟩

theorem body_inv {s : St} (h : Inv s) (ents : List Nat) : Inv (body s ents) := by
  unfold body; split
  · exact h
  · exact write_inv h ents

theorem httpPre_some {s s1 : St} {start : Bool} {id : String} (h : httpPre s start id = some s1) :
    (start = true ∧ s1 = { s.start with fsid := id, lease := true })
    ∨ (start = false ∧ s.started = true ∧ id = s.fsid ∧ s1 = { s with lease := true })
    ∨ (start = false ∧ s.started = false ∧ s1 = s) := by
  unfold httpPre at h
  cases start with
  | true => exact .inl ⟨rfl, (Option.some.inj h).symm⟩
  | false =>
    cases hst : s.started with
    | true =>
      by_cases hid : id = s.fsid
      · exact .inr (.inl ⟨rfl, rfl, hid, by simpa [hst, hid] using h.symm⟩)
      · simp [hst, hid] at h
    | false => exact .inr (.inr ⟨rfl, rfl, by simpa [hst] using h.symm⟩)

theorem pre_inv {s s1 : St} (h : Inv s) {start : Bool} {id : String} (hp : httpPre s start id = some s1) : Inv s1 := by
  rcases httpPre_some hp with ⟨_, rfl⟩ | ⟨_, hst, _, rfl⟩ | ⟨_, _, rfl⟩
  · exact ⟨(start_inv s).seen_since, (start_inv s).since_live, fun _ => rfl⟩
  · exact ⟨h.seen_since, h.since_live, fun _ => hst⟩
  · exact h

theorem post_inv {s : St} (h : Inv s) (fin : Bool) : Inv (httpPost s fin).1 := by
  unfold httpPost
  split
  · split
    · exact complete_inv h
    · exact h
  · exact h

theorem step_inv {s : St} (h : Inv s) (e : Ev) : Inv (step s e).1 := by
  cases e with
  | http start id fin ents =>
    simp only [step]
    cases hp : httpPre s start id with
    | none => exact h
    | some s1 => exact post_inv (body_inv (pre_inv h hp) ents) fin
  | jobStart => exact start_inv s
  | jobBatch ents => exact body_inv h ents
  | jobEnd => exact complete_inv h
  | expire =>
    simp only [step]
    split
    · exact ⟨nofun, h.since_live, nofun⟩
    · exact h

theorem run_inv (evs : List Ev) : Inv (run evs {}) :=
  List.foldlRecOn evs _ inv_init fun _ h e _ => step_inv h e

theorem Inv.complete_exact {s : St} (h : Inv s) (hst : s.started = true) :
    (∀ x, x ∈ s.complete.1.live ↔ x ∈ s.live ∧ x ∈ s.since)
    ∧ (∀ x, x ∈ s.since → x ∈ s.complete.1.live)
    ∧ s.complete.1.tombs = s.tombs ++ s.live.filter (fun e => !s.since.contains e)
    ∧ s.complete.1.started = false := by
  -- a completion keeps the live entities seen and tombstones the others; seen is what was written since the start
  obtain ⟨hlive, htombs, hstarted⟩ : s.complete.1.live = s.live.filter (fun e => s.seen.contains e)
      ∧ s.complete.1.tombs = s.tombs ++ s.live.filter (fun e => !s.seen.contains e) ∧ s.complete.1.started = false := by
    simp [St.complete, hst]
  have hseen : ∀ e, s.seen.contains e = s.since.contains e := fun e => by
    simp only [List.contains_eq_mem, h.seen_since hst e]
  rw [hlive, htombs, hstarted]
  refine ⟨fun x => ?_, fun x hx => ?_, ?_, rfl⟩
  · simp only [List.mem_filter, hseen, List.contains_iff_mem]
  · exact List.mem_filter.2 ⟨h.since_live x hx, (hseen x).trans (List.contains_iff_mem.2 hx)⟩
  · simp only [hseen]

/-- T-C09-1 (completion is exact): in every reachable state, when a completion proceeds, every entity written since the
start of the active sync stays live, every other live entity gets exactly one tombstone, and nothing else changes. -/
theorem completion_exact (evs : List Ev) (hst : (run evs {}).started = true) :
    (∀ x, x ∈ (run evs {}).complete.1.live ↔ x ∈ (run evs {}).live ∧ x ∈ (run evs {}).since)
    ∧ (∀ x, x ∈ (run evs {}).since → x ∈ (run evs {}).complete.1.live)
    ∧ (run evs {}).complete.1.tombs
        = (run evs {}).tombs ++ (run evs {}).live.filter (fun e => !(run evs {}).since.contains e)
    ∧ (run evs {}).complete.1.started = false := (run_inv evs).complete_exact hst

/-- a tombstone is written for an entity at most once per completion. -/
theorem tombstones_once (s : St) (hl : s.live.Nodup) :
    (s.live.filter (fun e => !s.seen.contains e)).Nodup := hl.filter _

/-- T-C09-2 (foreign batches are rejected without effect): while a sync is active, a request that is not a start and
carries another id changes nothing, whatever it contains, including an end marker. -/
theorem foreign_rejected (s : St) (id : String) (fin : Bool) (ents : List Nat)
    (hst : s.started = true) (hid : id ≠ s.fsid) :
    step s (.http false id fin ents) = (s, .conflict) := by
  simp [step, httpPre, hst, hid]

theorem pre_tombs_started {s s1 : St} {start : Bool} {id : String} (hp : httpPre s start id = some s1) :
    s1.tombs = s.tombs ∧ (s1.started = true → start = true ∨ (s.started = true ∧ s.fsid = id)) := by
  rcases httpPre_some hp with ⟨hst, rfl⟩ | ⟨_, hst, hid, rfl⟩ | ⟨_, hst, rfl⟩
  · exact ⟨rfl, fun _ => .inl hst⟩
  · exact ⟨rfl, fun _ => .inr ⟨hst, hid.symm⟩⟩
  · exact ⟨rfl, fun h => absurd (hst ▸ h) nofun⟩

theorem body_tombs_started (s : St) (ents : List Nat) :
    (body s ents).tombs = s.tombs ∧ (body s ents).started = s.started := by
  unfold body; split <;> exact ⟨rfl, rfl⟩

theorem post_tombs {s : St} {fin : Bool} (h : (httpPost s fin).1.tombs ≠ s.tombs) : fin = true ∧ s.started = true := by
  cases fin with
  | false => exact absurd rfl h
  | true =>
    cases hst : s.started with
    | true => exact ⟨rfl, rfl⟩
    | false =>
      refine absurd ?_ h
      simp only [httpPost, if_true, complete_of_idle hst]; split <;> rfl

/-- T-C09-3 (HTTP): only a sync that is active with a live lease deletes anything: an HTTP request that wrote a tombstone
carried the end marker and started the sync itself or had the id of the started one. A superseded, abandoned or expired
HTTP sync deletes nothing, at its completion attempt or later. -/
theorem dead_sync_deletes_nothing_http (s : St) (start : Bool) (id : String) (fin : Bool) (ents : List Nat)
    (h : (step s (.http start id fin ents)).1.tombs ≠ s.tombs) :
    fin = true ∧ (start = true ∨ (s.started = true ∧ s.fsid = id)) := by
  simp only [step] at h
  cases hp : httpPre s start id with
  | none => rw [hp] at h; exact absurd rfl h
  | some s1 =>
    rw [hp] at h
    -- only the end part writes tombstones, and only for a sync that is started after the first two parts
    have ⟨ht1, hs1⟩ := pre_tombs_started hp
    have ⟨ht, hs⟩ := body_tombs_started s1 ents
    have ⟨hfin, hst⟩ := post_tombs (ht ▸ ht1 ▸ h)
    exact ⟨hfin, hs1 (hs ▸ hst)⟩

/-- expiry, batches and starts never write tombstones: only an end marker or a job end can. -/
theorem only_completion_deletes (s : St) (e : Ev)
    (h : (step s e).1.tombs ≠ s.tombs) : (∃ st id ents, e = .http st id true ents) ∨ e = .jobEnd := by
  cases e with
  | http start id fin ents =>
    obtain ⟨rfl, _⟩ := dead_sync_deletes_nothing_http s start id fin ents h
    exact .inl ⟨_, _, _, rfl⟩
  | jobStart => exact absurd rfl h
  | jobBatch ents => exact absurd (body_tombs_started s ents).1 h
  | jobEnd => exact .inr rfl
  | expire => exfalso; apply h; simp only [step]; split <;> rfl

/-- T-C09-3 (jobs, after the D10a fix): a job whose sync state was cleared by a lease expiry cannot complete: `jobEnd` is
refused and nothing is deleted. -/
theorem expired_job_sync_deletes_nothing (s : St) (h : s.started = false) :
    step s .jobEnd = (s, .err) := complete_of_idle h

open Hub.Facts.FullSync in
/-- `CompleteFullSync` refuses unless started and tombstones the live entities not seen (`St.complete`); seen is marked only
while started (`St.write`); the handler runs `httpPre`, `body`, `httpPost` in this order. -/
theorem facts_shape :
    completeGuard = ["!ds.fullSyncStarted"]
    ∧ refreshConds = ["ds.fullSyncStarted", "fullSyncID == ds.fullSyncID", "fullSyncID != \"\""]
    ∧ releaseGuard = ["ds.fullSyncLease == nil"]
    ∧ seenMark = ["ds.fullSyncStarted"] ∧ seenMarkFunc = "StoreEntitiesWithTransaction"
    ∧ handlerOrder = ["dataset.StartFullSyncWithLease", "dataset.RefreshFullSyncLease", "dataset.StoreEntities", "dataset.StoreEntities",
        "dataset.ReleaseFullSyncLease", "dataset.CompleteFullSync"]
    ∧ handlerRefreshCond = ["dataset.FullSyncStarted()"]
    ∧ deleteCond = ["!e.IsDeleted", "!ok"] := ⟨rfl, rfl, rfl, rfl, rfl, rfl, rfl, rfl⟩

-- non-vacuity: a complete HTTP sync that deletes entity 2 and keeps 1 and 3
example : let s := run [.http false "" false [1, 2], .http true "x" false [1], .http false "y" false [9],
               .http false "x" true [3]] {}
    s.live = [1, 3] ∧ s.tombs = [2] ∧ s.started = false := by decide

/-- known finding D10b: a job-driven sync has no identity: superseded by an HTTP start it still completes, by the HTTP
sync's seen-set, and closes the HTTP sync. -/
theorem job_sync_superseded_deletes :
    let s := run [.http false "" false [1, 2], .jobStart, .jobBatch [1], .http true "x" false [2], .jobEnd] {}
    s.tombs = [1] ∧ s.started = false := by decide

end Hub.C09
