import Hub.Model.Raffle
import Hub.Generated.ErrHandler
import Hub.Generated.Jobs
/-!
# C11 — every accepted job ends with a recorded outcome; one run per job id

Model: `Hub/Model/Raffle.lean`. The raffle's invariant `Inv`, preserved by `borrow` and `ret` (through `borrow_spec`, the
two outcomes of `borrowTicket`), and what follows from it.
-/
namespace Hub.C11
open Hub.Raffle

/-- per kind, tickets left plus runs in flight make up the pool (`pf` fullsync, `pi` incremental); no job id runs twice. -/
structure Inv (pf pi : Nat) (s : St) : Prop where
  full : s.ticketsFull + countFull s = pf
  incr : s.ticketsIncr + countIncr s = pi
  nodup : (s.running.map (·.1)).Nodup

theorem isRunning_iff {s : St} {id : String} : isRunning s id = true ↔ id ∈ s.running.map (·.1) := by
  simp [isRunning]

theorem borrow_spec (s : St) (id : String) (isFull : Bool) :
    borrow s id isFull = (s, false) ∨
    (isRunning s id = false ∧ 0 < (if isFull then s.ticketsFull else s.ticketsIncr) ∧
      borrow s id isFull =
        ({ ticketsFull := if isFull then s.ticketsFull - 1 else s.ticketsFull,
           ticketsIncr := if isFull then s.ticketsIncr else s.ticketsIncr - 1,
           running := (id, isFull) :: s.running }, true)) := by
  unfold borrow
  cases hr : isRunning s id
  · cases isFull
    · by_cases hp : 0 < s.ticketsIncr <;> simp [hp]
    · by_cases hp : 0 < s.ticketsFull <;> simp [hp]
  · simp

theorem length_filter_cons {α : Type} (p : α → Bool) (x : α) (l : List α) :
    ((x :: l).filter p).length = (l.filter p).length + if p x then 1 else 0 := by
  rw [List.filter_cons]; split <;> simp

theorem borrow_inv {pf pi : Nat} {s : St} (h : Inv pf pi s) (id : String) (isFull : Bool) :
    Inv pf pi (borrow s id isFull).1 := by
  rcases borrow_spec s id isFull with hb | ⟨hr, hpos, hb⟩ <;> rw [hb]
  · exact h
  · -- granted: the count of the own kind goes up by one, its pool (not empty: `hpos`) down by one
    refine { full := ?_, incr := ?_, nodup := List.nodup_cons.2 ⟨fun hm => ?_, h.nodup⟩ }
    · rw [← h.full]; simp only [countFull, length_filter_cons]
      cases isFull <;> simp at hpos ⊢ <;> omega
    · rw [← h.incr]; simp only [countIncr, length_filter_cons]
      cases isFull <;> simp at hpos ⊢ <;> omega
    · rw [isRunning_iff.2 hm] at hr; cases hr

theorem perm_cons_filter_key {κ β : Type} [BEq κ] [LawfulBEq κ] {k : κ} {v : β} {l : List (κ × β)}
    (hnd : (l.map (·.1)).Nodup) (hm : (k, v) ∈ l) : l.Perm ((k, v) :: l.filter (·.1 != k)) := by
  induction l with
  | nil => cases hm
  | cons ab l ih =>
    rw [List.map_cons, List.nodup_cons] at hnd
    rcases List.mem_cons.1 hm with rfl | hm
    · rw [List.filter_cons_of_neg (by simp), List.filter_eq_self.2 fun e he => by
        simpa using fun h => hnd.1 (List.mem_map.2 ⟨e, he, h⟩)]
    · have hne : ab.1 ≠ k := fun h => hnd.1 (List.mem_map.2 ⟨_, hm, h.symm⟩)
      rw [List.filter_cons_of_pos (by simpa using hne)]
      exact ((ih hnd.2 hm).cons _).trans (.swap ..)

theorem ret_inv {pf pi : Nat} {s : St} (h : Inv pf pi s) (id : String) (isFull : Bool)
    (hrun : (id, isFull) ∈ s.running) : Inv pf pi (ret s id isFull) := by
  -- `running` is a permutation of the returned entry consed on what `ret` leaves: the count of its kind drops by one
  have hp := perm_cons_filter_key h.nodup hrun
  refine { full := ?_, incr := ?_, nodup := h.nodup.sublist (List.filter_sublist.map _) }
  · rw [← h.full, countFull, countFull, (hp.filter (·.2)).length_eq, length_filter_cons]
    cases isFull <;> simp [ret] <;> omega
  · rw [← h.incr, countIncr, countIncr, (hp.filter (!·.2)).length_eq, length_filter_cons]
    cases isFull <;> simp [ret] <;> omega

theorem isRunning_ret (s : St) (id : String) (isFull : Bool) : isRunning (ret s id isFull) id = false := by
  simp [ret, isRunning]

theorem step_inv {pf pi : Nat} {s : St} (h : Inv pf pi s) (op : Op) : Inv pf pi (step s op) := by
  cases op with
  | borrow id f => exact borrow_inv h id f
  | ret id f =>
    simp only [step]
    split
    · next hm => exact ret_inv h id f hm
    · exact h

/-- T-C11-1 (raffle invariant): after every sequence of ticket requests and returns — any job
ids, any mix of fullsync/incremental, any order — the tickets plus the running jobs of each kind
add up to the configured pool and no job id runs twice. -/
theorem raffle_inv (pf pi : Nat) (ops : List Op) : Inv pf pi (ops.foldl step (init pf pi)) :=
  List.foldlRecOn ops step ⟨rfl, rfl, .nil⟩ fun _ hs op _ => step_inv hs op

theorem pools_never_exceeded (pf pi : Nat) (ops : List Op) :
    let s := ops.foldl step (init pf pi)
    countFull s ≤ pf ∧ countIncr s ≤ pi ∧ (s.running.map (·.1)).Nodup := by
  have h := raffle_inv pf pi ops
  exact ⟨by have := h.full; omega, by have := h.incr; omega, h.nodup⟩

/-- a second request for an id that is running is refused (no overlap of two runs of one job). -/
theorem no_overlap (s : St) (id : String) (f g : Bool) (h : (id, f) ∈ s.running) :
    (borrow s id g).2 = false ∧ (borrow s id g).1 = s := by
  have : isRunning s id = true := isRunning_iff.2 (List.mem_map.2 ⟨_, h, rfl⟩)
  rcases borrow_spec s id g with hb | ⟨hr, -⟩
  · rw [hb]; exact ⟨rfl, rfl⟩
  · rw [this] at hr; cases hr

/-- T-C11-2/3 (run outcome): a run that got a ticket always gives it back — also when a
component panics — and stores a result unless it panicked; the bookkeeping invariant survives. -/
theorem run_outcome {pf pi : Nat} (s : St) (h : Inv pf pi s) (id : String) (isFull : Bool) (p : Pipe) :
    let r := jobRun s id isFull p
    Inv pf pi r.1
    ∧ (r.2.gotTicket = true → r.2.ticketReturned = true ∧ r.2.handleJobErrorCalled = true
        ∧ (p ≠ .panics → r.2.resultStored = true) ∧ isRunning r.1 id = false)
    ∧ (r.2.gotTicket = false → r.1 = s) := by
  have hbi := borrow_inv h id isFull
  simp only [jobRun]
  rcases borrow_spec s id isFull with hb | ⟨-, -, hb⟩ <;> rw [hb] at hbi ⊢
  · exact ⟨h, by simp, fun _ => rfl⟩
  · refine ⟨ret_inv hbi id isFull (List.mem_cons_self ..), fun _ => ⟨rfl, rfl, fun hp => ?_, isRunning_ret ..⟩, fun hgot => ?_⟩
    · exact bne_iff_ne.2 hp   -- `resultStored` is `p != .panics`
    · cases hgot              -- `gotTicket` is `true` here

/-- T-C11-4 (wrappers forward): every method of the error-handling wrappers calls the wrapped
component — from the regenerated facts (defect D8: `EndStoreContext` called itself). -/
theorem wrappers_forward :
    Hub.Facts.ErrHandler.forward_wrappedTransform
      = ["GetConfig:inner", "transformEntities:inner", "getParallelism:inner", "EndStoreContext:inner"]
    ∧ Hub.Facts.ErrHandler.forward_wrappedSink
      = ["GetConfig:inner", "processEntities:inner", "startFullSync:inner", "endFullSync:inner"] := ⟨rfl, rfl⟩

/-- T-C11-5 (verify is total over the trigger list): a configuration is accepted iff *every*
trigger is valid and its handler list validated/defaulted. -/
theorem verify_total (ts : List Trigger) : verify ts = true ↔ ∀ t ∈ ts, triggerOk t = true := by
  induction ts with
  | nil => simp [verify]
  | cons t ts ih =>
    simp [verify, ih]

/-- regenerated facts the model rests on: `Scheduler.verify`'s loop has no early `return nil` and calls
`verifyErrorHandlers` in it; `job.Run` defers `handleJobError` and `returnTicket`; the raffle's accessors copy or lock;
`borrowTicket` locks first and has the guards of `borrow`. -/
theorem facts_verify_shape :
    Hub.Facts.Jobs.verifyReturnNilInLoop = 0 ∧ Hub.Facts.Jobs.verifyHandlersCallDepth = "loop"
    ∧ Hub.Facts.Jobs.runDefers = ["j.handleJobError(&pipelineErr)", "j.runner.raffle.returnTicket(ticket)"]
    ∧ Hub.Facts.Jobs.raffleAccessorsCopy = ["getRunningJobs:copy", "runningJob:locked"]
    ∧ Hub.Facts.Jobs.borrowLockedFirst = "yes"
    ∧ Hub.Facts.Jobs.borrowGuards = ["ok", "r.ticketsFull > 0", "r.ticketsIncr > 0"]
    -- a kill only cancels the run's context: the ticket goes back once, from the run's own deferred call
    ∧ Hub.Facts.Jobs.skeleton_killJob = ["runner.raffle.runningJob", "if running != nil {", "running.cancel", "}"]
    ∧ Hub.Facts.Jobs.ticketReturners = ["job.Run"]
    -- the bisection of the error-handling sink wrapper terminates: batches of length ≤ 1 are leaves
    ∧ Hub.Facts.ErrHandler.leafCond = ["len(entities) <= 1"] := ⟨rfl, rfl, rfl, rfl, rfl, rfl, rfl, rfl, rfl⟩

-- non-vacuity: both kinds borrowed, a request for a running id refused, one return
example : let s := [Op.borrow "a" true, Op.borrow "b" false, Op.borrow "a" false, Op.ret "b" false].foldl step (init 1 2)
    s.ticketsFull = 0 ∧ s.ticketsIncr = 2 ∧ s.running = [("a", true)] := by decide

/-! ## `verifyCur`, the loop with the early `return nil` of defect D18, accepts what `verify` rejects -/
theorem cur_verify_skips :
    verifyCur [⟨true, true, true, true, true, false⟩] = true
    ∧ verify [⟨true, true, true, true, true, false⟩] = false
    ∧ verifyCur [⟨true, true, true, true, true, true⟩, ⟨false, true, false, false, false, true⟩] = true := by decide

end Hub.C11
