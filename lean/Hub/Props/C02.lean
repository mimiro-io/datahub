import Hub.Proofs.StoreInv
import Hub.Proofs.Paging
import Hub.Proofs.SortBy
import Hub.Proofs.TxnRefine
import Hub.Generated.Layout
/-!
# C02 — the change feed is the complete ordered version history; tokens resume exactly

Under the invariant the change log of a dataset is the specification's feed (`changesOf_eq_feedOf`, `changesPage_all`);
paging: `Hub/Proofs/Paging.lean`. Model: `Hub/Model/Store.lean`.
-/
namespace Hub.C02
open Hub.Store Hub.StoreInv Hub.Paging

theorem changesOf_eq_feedOf {db : DB} {S : Spec} (h : Inv db S) (ds : Nat) :
    changesOf db ds = feedOf db ds :=
  -- `changesOf db ds` unfolds to `sortBy _ (feedOf db ds)` (the two filters and projections agree by definition)
  Hub.SortBy.sortBy_of_sorted (l := feedOf db ds) ((h.f.inc ds).imp fun hab => decide_eq_false (Nat.lt_asymm hab))

theorem changesPage_all {db : DB} {S : Spec} (h : Inv db S) (ds : Nat) (lo : Bool) :
    (changesPage db ds 0 0 lo).1 = (S.feed ds).filterMap (emitOf db ds lo) := by
  unfold changesPage
  rw [page_unlimited, changesOf_eq_feedOf h, fromPos_zero, ← h.f.feed ds, List.filterMap_map]
  rfl

/-- T-C02-1 (the feed is the version history): reading from the start without limit yields, in
commit order, exactly one entry per accepted version (`S.feed`), each resolved to that version. -/
theorem feed_eq_versions {db : DB} {S : Spec} (h : Inv db S) (ds : Nat) :
    (changesPage db ds 0 0 false).1 = (S.feed ds).filterMap db.get := by
  rw [changesPage_all h]
  rfl

/-- T-C02-2 (one entry per accepted write, none for a redundant one) is the definition of
`specOne`, which the write loop refines: -/
theorem feed_step (S : Spec) (ds t i : Nat) (e : Ent) :
    (specOne ds t S (i, e)).feed ds =
      if lastEnt (S.vers ds e.rid) = some e then S.feed ds else S.feed ds ++ [⟨e.rid, ds, t, i⟩] := by
  rw [specOne_feed]
  by_cases h : lastEnt (S.vers ds e.rid) = some e <;> simp [h]

/-- T-C02-3 (tokens resume exactly): for every `since`, every list of limits (0 = unlimited) and
with or without latest-only, the pages a reader gets by following the returned tokens, followed by
an unlimited read from its last token, are exactly the entries from `since` — nothing skipped,
nothing repeated. Sequence numbers need not be contiguous (gaps after a crash are allowed). -/
theorem resume_exact {db : DB} {S : Spec} (h : Inv db S) (ds since : Nat) (limits : List Nat) (lo : Bool) :
    let r := pagesG (emitOf db ds lo) (changesOf db ds) since limits
    r.1.flatten ++ (changesPage db ds r.2 0 lo).1 = (changesPage db ds since 0 lo).1 := by
  simp only [changesPage, page_unlimited]
  apply pages_resume
  rw [changesOf_eq_feedOf h]
  exact h.f.inc ds

/-- a token obtained at the end returns nothing and is handed back unchanged. -/
theorem token_at_end {db : DB} {S : Spec} (h : Inv db S) (ds limit : Nat) (lo : Bool) :
    changesPage db ds (db.posOf ds) limit lo = ([], db.posOf ds) := by
  apply page_at_end
  rw [changesOf_eq_feedOf h]
  exact h.f.bound ds

/-- … and after new writes the same token returns exactly the new entries: the entries at or after
the old end are those appended since (positions below it are the old feed). -/
theorem token_sees_only_new (db : DB) (ds : Nat) (c : Nat × VKey)
    (tok : Nat) (hold : c.1 < tok) : c ∉ fromPos tok (feedOf db ds) :=
  fun hm => Nat.not_le_of_lt hold (mem_fromPos.1 hm).2

/-- T-C02-4 (latest-only): with latest-only the unlimited feed is the feed filtered to the entries
that are the current version of their entity; its limit counts emitted entries (`scanG`). -/
theorem latest_only {db : DB} {S : Spec} (h : Inv db S) (ds : Nat) :
    (changesPage db ds 0 0 true).1
      = ((S.feed ds).filter fun k => db.latestOf ds k.rid == some k).filterMap db.get := by
  rw [changesPage_all h, List.filterMap_filter]
  rfl

open Hub.TxnRefine in
/-- T-C02-5 (every history): from the empty store, after any history of batches and multi-dataset transactions with
increasing commit times the feed of every dataset read from the start is exactly the accepted versions of that history in
commit order, and following tokens through any list of page limits, from any `since`, with or without latest-only, yields
exactly the entries from `since`: nothing skipped, nothing repeated. -/
theorem feed_reachable (h : List (Nat × List (Nat × List Ent))) (hinc : h.Pairwise (fun a b => a.1 < b.1))
    (hd : ∀ w ∈ h, (w.2.map (·.1)).Nodup) (ds : Nat) :
    let db := runTxns h {}
    (changesPage db ds 0 0 false).1 = ((specTxns h {}).feed ds).filterMap db.get
    ∧ ∀ (since : Nat) (limits : List Nat) (lo : Bool),
        let r := pagesG (emitOf db ds lo) (changesOf db ds) since limits
        r.1.flatten ++ (changesPage db ds r.2 0 lo).1 = (changesPage db ds since 0 lo).1 := by
  have hI : Inv (runTxns h {}) (specTxns h {}) := inv_reachable h hinc hd
  exact ⟨feed_eq_versions hI ds, resume_exact hI ds⟩

open Hub.Facts.Layout in
/-- the change-log key (dataset, position, rid: `changesOf` is in position order); `Seek(since)` inside the dataset's prefix (`fromPos`);
the token `lastSeen + 1`, else `since` (`pageG`); the limit counts emitted entities and is tested after an emission (`scanG`);
latest-only keeps a key iff the latest pointer of its rid still names it (`emitOf`). -/
theorem facts_shape :
    changeKey = [("DatasetEntityChangeLog", 0, 16), ("ds.InternalID", 2, 32), ("nextEntitySeq", 6, 64), ("rid", 14, 64)]
    ∧ changesSeek = [("DatasetEntityChangeLog", 0, 16), ("ds.InternalID", 2, 32), ("since", 6, 64)]
    ∧ changesPrefixLen = "searchBuffer[:6]"
    ∧ changesToken = ["return lastSeen + 1, nil", "return since, nil"]
    ∧ changesLimitTest = ["limit > 0 && int(processed) == limit"]
    ∧ latestOnlyCompare = ["bytes.Equal(v2, entityChangeID)"]
    ∧ latestOnlyRid = "binary.BigEndian.Uint64(k[14:])" := ⟨rfl, rfl, rfl, rfl, rfl, rfl, rfl⟩

-- non-vacuity: a feed with a redundant write and a repeated id
example : let e1 : Ent := ⟨1, false, [], "a", []⟩;
    let e1' : Ent := ⟨1, false, [], "b", []⟩
    let db := storeBatch (storeBatch {} 2 10 [e1, e1]) 2 20 [e1, e1', e1']
    (changesPage db 2 0 0 false).1 = [e1, e1'] ∧ (changesPage db 2 0 1 false) = ([e1], 1)
    ∧ (changesPage db 2 0 0 true).1 = [e1'] := by decide +kernel

end Hub.C02
