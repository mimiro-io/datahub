import Hub.Model.Namespace
import Hub.Generated.Namespace
/-!
# C13 — namespace prefixes and internal identifiers are one-to-one and permanent

Invariants of the prefix table (`WF`) and of the id table (`IdWF`), kept by every assertion and restart, and what they
give.
-/
namespace Hub.C13
open Hub.Namespace

/-! lists searched by a key `f` of their entries (the prefix table, the id table) -/
section Keyed
variable {α κ : Type} {f : α → κ} {l : List α}

theorem nodup_map_concat (hnd : (l.map f).Nodup) {x : α} (hx : f x ∉ l.map f) : ((l ++ [x]).map f).Nodup := by
  rw [List.map_append, List.nodup_append]
  refine ⟨hnd, List.pairwise_singleton _ _, fun a ha b hb e => hx ?_⟩
  -- `b` is `f x`, and `a = b` is a key of `l`
  rw [List.map_singleton, List.mem_singleton] at hb
  rwa [← hb, ← e]

variable [BEq κ] [LawfulBEq κ]

theorem find?_key_of_mem (hnd : (l.map f).Nodup) {x : α} (hm : x ∈ l) : l.find? (f · == f x) = some x := by
  induction l with
  | nil => cases hm
  | cons y ys ih =>
    rw [List.map_cons, List.nodup_cons] at hnd
    rcases List.mem_cons.1 hm with rfl | hm'
    · simp
    · have hne : f y ≠ f x := fun h => hnd.1 (h ▸ List.mem_map_of_mem hm')
      simp [hne, ih hnd.2 hm']

theorem key_not_mem {β : Type} {g : α → β} {k : κ} (h : (l.find? (f · == k)).map g = none) : k ∉ l.map f := by
  intro hm
  obtain ⟨x, hx, rfl⟩ := List.mem_map.1 hm
  exact List.find?_eq_none.1 (Option.map_eq_none_iff.1 h) x hx (beq_self_eq_true _)

end Keyed

theorem natDigits_inj {a b : Nat} (h : natDigits a = natDigits b) : a = b := by
  have ha := @Nat.ofDigitChars_ten_toDigits a
  have hb := @Nat.ofDigitChars_ten_toDigits b
  unfold natDigits at h
  rw [h] at ha; omega

theorem nsPrefix_inj {a b : Nat} (h : nsPrefix a = nsPrefix b) : a = b :=
  natDigits_inj (List.append_cancel_left h)

theorem colon_not_in_nsPrefix (n : Nat) : ':' ∉ nsPrefix n := by
  intro h
  rcases List.mem_append.1 h with h | h
  · simp at h
  · have := Nat.isDigit_of_mem_toDigits (by decide) (by decide) h
    simp at this

theorem splitLast_append (c : Char) (u a b : Str) (h : splitLast c u = some (a, b)) : a ++ b = u := by
  fun_induction splitLast c u generalizing a b with
  | case1 => cases h
  | case2 x xs a' b' hs ih => cases h; exact congrArg (x :: ·) (ih _ _ hs)
  | case3 x xs hs => cases h; rfl
  | case4 => cases h

theorem splitLast_isSome (c : Char) (u : Str) (h : c ∈ u) : (splitLast c u).isSome = true := by
  induction u with
  | nil => cases h
  | cons x xs ih =>
    rw [splitLast]
    cases hr : splitLast c xs with
    | some r => rfl
    | none =>
      -- nothing was found in `xs`, so `c` is not in `xs`: it is `x`
      have hxs : c ∉ xs := fun hm => by simp [hr] at ih; exact ih hm
      have hx : x = c := ((List.mem_cons.1 h).resolve_right hxs).symm
      simp [hx]

theorem splitFirst_of_not_mem (c : Char) (p rest : Str) (h : c ∉ p) :
    splitFirst c (p ++ c :: rest) = some (p, rest) := by
  induction p with
  | nil => simp [splitFirst]
  | cons x xs ih =>
    rw [List.mem_cons, not_or] at h
    simp [splitFirst, Ne.symm h.1, ih h.2]

theorem urlParts_append (u a b : Str) (h : urlParts u = some (a, b)) : a ++ b = u := by
  unfold urlParts at h
  split at h
  · cases h; exact splitLast_append _ _ _ _ ‹_›
  · exact splitLast_append _ _ _ _ h

theorem urlParts_isSome (u : Str) (h : isHttp u = true) : (urlParts u).isSome = true := by
  have hs : '/' ∈ u := by
    rcases (Bool.or_eq_true_iff).1 h with h1 | h1 <;>
      exact List.IsPrefix.mem (by simp) (List.isPrefixOf_iff_prefix.1 h1)
  unfold urlParts
  cases splitLast '#' u with
  | some r => rfl
  | none => exact splitLast_isSome _ _ hs

/-- the prefix table as `NS.assert` builds it -/
structure WF (s : NS) : Prop where
  prefixes : ∀ i (h : i < s.pairs.length), (s.pairs[i]).1 = nsPrefix i
  expNodup : (s.pairs.map (·.2)).Nodup

theorem prefix_mem {s : NS} (h : WF s) {p e : Str} (hm : (p, e) ∈ s.pairs) : ∃ i, p = nsPrefix i := by
  obtain ⟨i, hi, hget⟩ := List.getElem_of_mem hm
  exact ⟨i, by rw [← h.prefixes i hi, hget]⟩

theorem WF.prefNodup {s : NS} (h : WF s) : (s.pairs.map (·.1)).Nodup := by
  rw [List.nodup_iff_pairwise_ne, List.pairwise_iff_getElem]
  intro i j hi hj hij heq
  simp only [List.length_map] at hi hj
  simp only [List.getElem_map] at heq
  rw [h.prefixes i hi, h.prefixes j hj] at heq
  have := nsPrefix_inj heq; omega

/-- T-C13-1a: in every reachable state the two maps are mutually inverse on every stored pair. -/
theorem ns_bijection {s : NS} (h : WF s) {p e : Str} (hm : (p, e) ∈ s.pairs) :
    s.prefixOf e = some p ∧ s.expansionOf p = some e :=
  ⟨congrArg (Option.map Prod.fst) (find?_key_of_mem h.expNodup hm),
   congrArg (Option.map Prod.snd) (find?_key_of_mem h.prefNodup hm)⟩

/-- T-C13-1b: asserting a namespace keeps the invariant; the new prefix is fresh (`"ns"+len`). -/
theorem assert_wf {s : NS} (h : WF s) (e : Str) : WF (s.assert e).1 := by
  unfold NS.assert
  cases hp : s.prefixOf e with
  | some p => exact h
  | none =>
    refine ⟨fun i hi => ?_, nodup_map_concat h.expNodup (key_not_mem hp)⟩
    rw [List.getElem_append]
    split
    · exact h.prefixes i _
    · have : i = s.pairs.length := by simp at hi; omega
      simp [this]

theorem assert_pairs (s : NS) (e : Str) {x : Str × Str} (hx : x ∈ s.pairs) : x ∈ (s.assert e).1.pairs := by
  unfold NS.assert
  split
  · exact hx
  · exact List.mem_append_left _ hx

/-- T-C13-1c: the answer of an assertion is a stored mapping for that expansion. -/
theorem assert_mem (s : NS) (e : Str) : ((s.assert e).2, e) ∈ (s.assert e).1.pairs := by
  unfold NS.assert
  cases hp : s.prefixOf e with
  | some p =>
    obtain ⟨x, hx, rfl⟩ := Option.map_eq_some_iff.1 hp
    have he : x.2 = e := by simpa using List.find?_some hx
    exact he ▸ List.mem_of_find?_eq_some hx
  | none => simp

/-- T-C13-2 (permanent): a mapping, once handed out, is in every later state. (Across a restart: the whole state is stored
inside the same call and reloaded as is; restart is the identity on `NS`.) -/
theorem ns_permanent (s : NS) (es : List Str) {p e : Str} (hm : (p, e) ∈ s.pairs) :
    (p, e) ∈ (es.foldl (fun s e => (s.assert e).1) s).pairs :=
  List.foldlRecOn (motive := fun t => (p, e) ∈ t.pairs) es _ hm fun s hs e _ => assert_pairs s e hs

theorem wf_reachable (es : List Str) : WF (es.foldl (fun s e => (s.assert e).1) {}) :=
  List.foldlRecOn (motive := WF) es _ ⟨nofun, .nil⟩ fun _ hs e _ => assert_wf hs e

/-- T-C13-3 (CURIE round trip): for every http(s) URI (hash or slash namespace, empty local part, colons, slashes, hashes
inside the local part) compacting and expanding returns the original. -/
theorem curie_roundtrip {s : NS} (h : WF s) (u : Str) (hu : isHttp u = true) :
    ∃ s' c, s.compact u = some (s', c) ∧ WF s' ∧ s'.expand c = some u := by
  obtain ⟨⟨exp, loc⟩, hparts⟩ := Option.isSome_iff_exists.1 (urlParts_isSome u hu)
  have hwf := assert_wf h exp
  have hmem := assert_mem s exp
  refine ⟨(s.assert exp).1, (s.assert exp).2 ++ [':'] ++ loc, by simp [NS.compact, hu, hparts], hwf, ?_⟩
  obtain ⟨i, hpi⟩ := prefix_mem hwf hmem
  have hnc : ':' ∉ (s.assert exp).2 := hpi ▸ colon_not_in_nsPrefix i
  rw [NS.expand, List.append_assoc, List.singleton_append, splitFirst_of_not_mem _ _ _ hnc]
  simp only [(ns_bijection hwf hmem).2, Option.map_some, urlParts_append u exp loc hparts]

/-- the id table as `Ids.assert` builds it: ids below `next`, uri↔id one-to-one -/
structure IdWF (s : Ids) : Prop where
  bound : ∀ x ∈ s.pairs, x.2 < s.next
  uriNodup : (s.pairs.map (·.1)).Nodup
  idNodup : (s.pairs.map (·.2)).Nodup

/-- T-C13-4: `assertIDForURI` keeps uri↔id one-to-one; a new id is strictly greater than every id
handed out before. -/
theorem id_assert_wf {s : Ids} (h : IdWF s) (u : Str) : IdWF (s.assert u).1 := by
  unfold Ids.assert
  cases hi : s.idOf u with
  | some i => exact h
  | none =>
    refine ⟨?_, nodup_map_concat h.uriNodup (key_not_mem hi), nodup_map_concat h.idNodup fun hm => ?_⟩
    · simp only [List.forall_mem_append, List.forall_mem_singleton]
      exact ⟨fun x hx => Nat.lt_succ_of_lt (h.bound x hx), Nat.lt_succ_self _⟩
    · obtain ⟨x, hx, hxn⟩ := List.mem_map.1 hm
      exact Nat.lt_irrefl _ (hxn ▸ h.bound x hx)

theorem id_restart_wf {s : Ids} (h : IdWF s) (k : Nat) : IdWF (s.restart k) :=
  ⟨fun x hx => Nat.lt_add_right k (h.bound x hx), h.uriNodup, h.idNodup⟩

/-- an event of the id table's life: an assertion, or a restart after which the sequence resumes `skip` numbers on -/
inductive IdOp | assert (u : Str) | restart (skip : Nat)

def idStep (s : Ids) : IdOp → Ids
  | .assert u => (s.assert u).1
  | .restart k => s.restart k

theorem id_assert_pairs (s : Ids) (u : Str) {x : Str × Nat} (hx : x ∈ s.pairs) : x ∈ (s.assert u).1.pairs := by
  unfold Ids.assert
  split
  · exact hx
  · exact List.mem_append_left _ hx

/-- T-C13-5 (ids permanent, never reused): over any history of assertions and restarts/crashes (the sequence resumes at or
beyond its lease) the invariant holds and every mapping ever handed out is still there. -/
theorem id_permanent (s : Ids) (h : IdWF s) (ops : List IdOp) :
    IdWF (ops.foldl idStep s) ∧ ∀ x ∈ s.pairs, x ∈ (ops.foldl idStep s).pairs :=
  List.foldlRecOn (motive := fun t => IdWF t ∧ ∀ x ∈ s.pairs, x ∈ t.pairs) ops _ ⟨h, fun _ hx => hx⟩
    fun t ht op _ => match op with
      | .assert u => ⟨id_assert_wf ht.1 u, fun x hx => id_assert_pairs t u (ht.2 x hx)⟩
      | .restart k => ⟨id_restart_wf ht.1 k, ht.2⟩

open Hub.Facts.Namespace in
/-- the assertion looks up, else takes `"ns" + len(map)`, and stores the state before it returns, under the lock
(`NS.assert`); the split points of `getURLParts` (`urlParts`) and of `ExpandCurie` (`NS.expand`). -/
theorem facts_shape :
    assertBody = ["prefix := namespaceManager.expansionToPrefixMapping[uriExpansion]",
      "if prefix == \"\" { prefix = \"ns\" + strconv.Itoa(len(namespaceManager.prefixToExpansionMapping)) namespaceManager.prefixToExpansionMapping[prefix] = uriExpansion namespaceManager.expansionToPrefixMapping[uriExpansion] = prefix state := &NamespacesState{} state.PrefixToExpansionMapping = namespaceManager.prefixToExpansionMapping state.ExpansionToPrefixMapping = namespaceManager.expansionToPrefixMapping err := namespaceManager.store.StoreObject(NamespacesIndex, \"namespacestate\", state) if err != nil { return \"\", err } }",
      "return prefix, nil"]
    ∧ assertLocked = true
    ∧ urlPartsSplits = ["strings.LastIndex(url, \"#\")", "strings.LastIndex(url, \"/\")"]
    ∧ expandSplit = ["strings.Index(curie, \":\")"]
    ∧ prefixMapAccessor = "copy" := ⟨rfl, rfl, rfl, rfl, rfl⟩

example : (({} : NS).assert "http://a/".toList).2 = "ns0".toList := by decide

end Hub.C13
