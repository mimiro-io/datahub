import Hub.Proofs.Sync
import Hub.Proofs.PipeInv
import Hub.Proofs.PipeLO
import Hub.Generated.Pipeline
/-! # C08 — incremental jobs converge and tokens never run ahead of delivered data
Property theorems over two models: the abstract `Hub.Sync` (with the lemmas about `pages`) and the detailed `Hub.Pipe`
that is compared with the code (`pipe_*`), and the regenerated facts. -/
namespace Hub.C08
open Hub.Sync

/-- **token safety**: after any history (writes, pages of any size, aborts at any point — sink failure, interrupt, kill,
process death — and full syncs that reset the token when they start) the persisted token is never ahead of what the
sink has been given. -/
theorem token_never_ahead (l : List Step) (hf : ∀ st ∈ l, st.fixed = true) :
    let s := run {} l
    s.tok ≤ s.cur ∧ s.cur ≤ s.src.length ∧ Inv s.src s.sink s.tok :=
  let g := good_run l {} good_init hf
  ⟨g.tokLe, g.curLe, inv_mono g.inv g.tokLe⟩

/-- **convergence**: whatever happened before (any history), once a run has read to the end of the
feed the sink's latest view equals the source's latest view. -/
theorem converges_at_end (l : List Step) (hf : ∀ st ∈ l, st.fixed = true)
    (hend : (run {} l).cur = (run {} l).src.length) : Converged (run {} l) := by
  intro id
  have g := (good_run l {} good_init hf).inv
  rw [hend] at g
  exact converged_of_inv g id

def page (b : Nat) : List Step := [.deliver b, .persist]
def pages (b k : Nat) : List Step := (List.replicate k (page b)).flatten

theorem run_page (b : Nat) (hb : 0 < b) (s : St) (hc : s.cur ≤ s.src.length) :
    (run s (page b)).cur ≤ s.src.length ∧ ((run s (page b)).cur = s.src.length ∨ s.cur + 1 ≤ (run s (page b)).cur) := by
  have : (run s (page b)).cur = s.cur + min b (s.src.length - s.cur) := by
    show s.cur + ((s.src.drop s.cur).take b).length = _
    rw [List.length_take, List.length_drop]
  rw [this]; omega

/-- where the page count comes from: a page reaches the end of the feed or moves the cursor by at least one (`run_page`), so
`k` pages reach it when `src.length ≤ cur + k`; one more page is there for `k = 0`, where the token still has to be stored. -/
theorem run_pages (b : Nat) (hb : 0 < b) : ∀ (k : Nat) (s : St), Good s → s.src.length ≤ s.cur + k →
    Good (run s (pages b (k + 1))) ∧ (run s (pages b (k + 1))).src = s.src ∧ (run s (pages b (k + 1))).cur = s.src.length
    ∧ (run s (pages b (k + 1))).tok = s.src.length
  | 0, s, g, hk => by
    obtain ⟨h1, h2⟩ := run_page b hb s g.curLe
    have h3 : (run s (page b)).cur = s.src.length := by omega
    exact ⟨good_step _ .persist (good_step s (.deliver b) g rfl) rfl, rfl, h3, h3⟩
  | k + 1, s, g, hk => by
    obtain ⟨h1, h2⟩ := run_page b hb s g.curLe
    have hrun : run s (pages b (k + 1 + 1)) = run (run s (page b)) (pages b (k + 1)) :=
      List.foldl_append (l := page b) (l' := pages b (k + 1))
    rw [hrun]
    exact run_pages b hb k (run s (page b)) (good_step _ .persist (good_step s (.deliver b) g rfl) rfl)
      (by show s.src.length ≤ _; omega)

theorem good_restores (s : St) (g : Good s) (b : Nat) (hb : 0 < b) :
    let k := s.src.length - s.cur + 1
    Converged (run s (pages b k)) ∧ (run s (pages b k)).tok = s.src.length := by
  obtain ⟨g2, h1, h2, h3⟩ := run_pages b hb (s.src.length - s.cur) s g (by have := g.curLe; omega)
  have hinv := g2.inv
  rw [h2.trans (congrArg List.length h1.symm)] at hinv
  exact ⟨converged_of_inv hinv, h3⟩

/-- **the next successful run restores equality**: after any history, a run that is not disturbed
(any batch size ≥ 1, enough pages) ends with sink = source and its token at the end of the feed. -/
theorem next_run_restores (l : List Step) (hf : ∀ st ∈ l, st.fixed = true) (b : Nat) (hb : 0 < b) :
    let s := run {} l
    let k := s.src.length - s.cur + 1
    Converged (run s (pages b k)) ∧ (run s (pages b k)).tok = s.src.length :=
  good_restores _ (good_run l {} good_init hf) b hb

/-- **re-running with nothing new changes nothing**: at the end of the feed a page is empty. -/
theorem rerun_changes_nothing (s : St) (b : Nat) (h : s.cur = s.src.length) :
    (step s (.deliver b)).sink = s.sink ∧ (step s (.deliver b)).cur = s.cur := by
  simp [step, h, applyAll]

/-- a full sync that does NOT reset the persisted token when it starts (defect D28, repaired) can leave
the sink permanently behind: it re-delivers old versions from position 0, is aborted, and the next
incremental run — which starts from the old token — sees nothing to do. -/
theorem full_sync_abort_without_reset_diverges :
    let l : List Step := [.write (1, 10), .write (1, 11)] ++ pages 5 1      -- incremental run: sink 1 ↦ 11, token 2
      ++ [.startFull false, .deliver 1, .abort]                               -- the full sync re-delivers (1,10) and dies
      ++ pages 5 3                                                            -- next incremental run
    let s := run {} l
    getA 1 s.sink = some 10 ∧ latest s.src 1 = some 11 ∧ s.tok = s.src.length := by decide +kernel

/-- the same history with the reset converges. -/
example :
    let l : List Step := [.write (1, 10), .write (1, 11)] ++ pages 5 1 ++ [.startFull true, .deliver 1, .abort] ++ pages 5 3
    let s := run {} l
    getA 1 s.sink = some 11 ∧ latest s.src 1 = some 11 ∧ s.tok = s.src.length := by decide +kernel

open Hub.Pipe Hub.PipeInv in
/-- **token safety, run by run**: whatever happens to a run — the sink rejects any call, the run is killed after any
batch, the process dies between the sink write and the token store; incremental or full sync — the stored token still
does not point past anything the sink lacks. A run that ends `ok` leaves the token at the end. -/
theorem pipe_run_safe (b : Nat) (hb : 0 < b) (full : Bool) (flt : Faults) (s : Hub.Pipe.St) (f : Feed) (h : Safe f s) :
    Safe f (runJob true (cfg1 b) full flt s).1
    ∧ ((runJob true (cfg1 b) full flt s).2 = .ok → pos (runJob true (cfg1 b) full flt s).1.tok = f.length) :=
  runJob_safe b hb full flt s f h

open Hub.Pipe Hub.PipeInv in
/-- **token safety over every history** of source writes (batches of any content, with re-posts) and runs (either job
type, any fault at any point), from the empty hub. -/
theorem pipe_token_safe (b : Nat) (hb : 0 < b) (evs : List Ev) :
    ∃ f, Safe f (evs.foldl (stepEv b) { srcs := [[]] }) :=
  history_safe b hb evs { srcs := [[]] } [] ⟨rfl, Nat.zero_le _, inv_zero _ _⟩

open Hub.Pipe Hub.PipeInv in
/-- **convergence and recovery**: after any history, a run that ends `ok` leaves the sink's latest version of every
source id equal to the source's — in particular the first `ok` run after failed, killed or crashed ones. -/
theorem pipe_converges (b : Nat) (hb : 0 < b) (evs : List Ev) (full : Bool) (flt : Faults) :
    let s := evs.foldl (stepEv b) { srcs := [[]] }
    let r := runJob true (cfg1 b) full flt s
    r.2 = .ok → ∃ f, r.1.srcs = [f] ∧ ∀ id, (∃ p, Occ f id p) → latestV r.1.sink.feed id = latestV f id := by
  intro s r hok
  obtain ⟨f, hs⟩ := pipe_token_safe b hb evs
  obtain ⟨h1, h2⟩ := runJob_safe b hb full flt s f hs
  exact ⟨f, h1.srcs, converged_of_inv (h2 hok ▸ h1.inv)⟩

-- a full sync that dies after its first batch, then an incremental run
example :
    let w : Hub.PipeInv.Ev := .write [⟨1, 10, false⟩, ⟨1, 11, false⟩, ⟨2, 20, false⟩]
    let s := ([w, .run false {}, .run true { dieAfter := some 1 }] : List Hub.PipeInv.Ev).foldl (Hub.PipeInv.stepEv 1) { srcs := [[]] }
    let r := Hub.Pipe.runJob true (Hub.PipeInv.cfg1 1) false {} s
    r.2 = .ok ∧ r.1.tok = [some 3] ∧ Hub.Pipe.latestV r.1.sink.feed 1 = some ⟨1, 11, false⟩ := by decide +kernel

open Hub.Pipe Hub.PipeInv Hub.PipeLO in
/-- **one latest-only page**: reading from a cursor at which the invariant holds, delivering the page and moving the
cursor to the returned token keeps the invariant; the token moves forward and stays inside the feed. -/
theorem pipe_lo_page (f g : Feed) (cur batch : Nat) (hc : cur ≤ f.length) (h : InvLO f g cur) :
    let r := readPage f cur batch true
    InvLO f (storeBatch g r.1) r.2 ∧ cur ≤ r.2 ∧ r.2 ≤ f.length := lo_page_step f g cur batch hc h

open Hub.Pipe Hub.PipeInv Hub.PipeLO in
/-- **token safety over every history, latest-only**: source writes and incremental runs over a latest-only dataset
source with any fault at any point, from the empty hub. -/
theorem pipe_lo_token_safe (b : Nat) (hb : 0 < b) (evs : List EvLO) :
    ∃ f, SafeLO f (evs.foldl (stepEvLO b) { srcs := [[]] }) :=
  history_safeLO b hb evs { srcs := [[]] } [] ⟨rfl, Nat.zero_le _, invLO_zero _ _⟩

open Hub.Pipe Hub.PipeInv Hub.PipeLO in
/-- **convergence and recovery, latest-only**: after any such history, a run that ends `ok` leaves the sink's latest
version of every source id equal to the source's latest version. -/
theorem pipe_lo_converges (b : Nat) (hb : 0 < b) (evs : List EvLO) (flt : Faults) :
    let s := evs.foldl (stepEvLO b) { srcs := [[]] }
    let r := runJob true (cfgLO b) false flt s
    r.2 = .ok → ∃ f, r.1.srcs = [f] ∧ ∀ id, (∃ p, Occ f id p) → latestV r.1.sink.feed id = latestV f id := by
  intro s r hok
  obtain ⟨f, hs⟩ := pipe_lo_token_safe b hb evs
  obtain ⟨h1, h2⟩ := runJob_safeLO b hb flt s f hs
  exact ⟨f, h1.srcs, h2 hok⟩

-- a latest-only run that dies after its first batch, then a clean run: the superseded versions are never delivered
example :
    let w : Hub.PipeLO.EvLO := .write [⟨1, 10, false⟩, ⟨1, 11, false⟩, ⟨2, 20, false⟩, ⟨1, 12, false⟩]
    let s := ([w, .run { dieAfter := some 1 }] : List Hub.PipeLO.EvLO).foldl (Hub.PipeLO.stepEvLO 1) { srcs := [[]] }
    let r := Hub.Pipe.runJob true (Hub.PipeLO.cfgLO 1) false {} s
    r.2 = .ok ∧ r.1.sink.feed = [⟨2, 20, false⟩, ⟨1, 12, false⟩] ∧ r.1.tok = [some 4] := by decide +kernel

open Hub.Facts.Pipeline Hub.Pipe in
/-- incremental pipeline: per page the sink is called first, its error leaves the closure, only then is the
token encoded and stored; the stored state is read once, before the loop. -/
theorem facts_incremental_order :
    proj ["runner.store.GetObject", "pipeline.sink.processEntities", "continuationToken.Encode", "runner.store.StoreObject", "pipeline.source.ReadEntities"]
        skeleton_IncrementalPipeline
      = ["runner.store.GetObject", "pipeline.sink.processEntities", "continuationToken.Encode", "runner.store.StoreObject", "pipeline.source.ReadEntities"]
    ∧ errChecked "pipeline.sink.processEntities" skeleton_IncrementalPipeline = true
    ∧ errChecked "runner.store.StoreObject" skeleton_IncrementalPipeline = true
    ∧ errChecked "pipeline.source.ReadEntities" skeleton_IncrementalPipeline = true := by decide +kernel

open Hub.Facts.Pipeline Hub.Pipe in
/-- full-sync pipeline: the token is cleared and stored right after the sink's full sync started (`Step.fixed`),
no token is stored inside the read loop, the sink's full sync is completed exactly once, after the loop, and the
token is stored only after that completion succeeded; every failing step leaves the function. -/
theorem facts_fullsync_order :
    proj ["runner.store.GetObject", "pipeline.sink.startFullSync", "set syncJobState.ContinuationToken = \"\"", "if storeSyncState {",
          "runner.store.StoreObject", "pipeline.sink.processEntities", "continuationToken.Encode", "pipeline.source.ReadEntities", "pipeline.sink.endFullSync"]
        skeleton_FullSyncPipeline
      = ["runner.store.GetObject", "pipeline.sink.startFullSync", "set syncJobState.ContinuationToken = \"\"", "if storeSyncState {", "runner.store.StoreObject",
         "pipeline.sink.processEntities", "continuationToken.Encode", "pipeline.source.ReadEntities", "pipeline.sink.endFullSync", "if storeSyncState {", "runner.store.StoreObject"]
    ∧ resetAtStart skeleton_FullSyncPipeline = true
    ∧ errChecked "pipeline.sink.startFullSync" skeleton_FullSyncPipeline = true
    ∧ errChecked "pipeline.sink.processEntities" skeleton_FullSyncPipeline = true
    ∧ errChecked "pipeline.source.ReadEntities" skeleton_FullSyncPipeline = true
    ∧ errChecked "pipeline.sink.endFullSync" skeleton_FullSyncPipeline = true
    ∧ errChecked "runner.store.StoreObject" skeleton_FullSyncPipeline = true := by decide +kernel

open Hub.Facts.Pipeline Hub.Pipe in
/-- union source: the shared continuation is advanced before the callback, a failing callback leaves the read at
once, and `Update` moves to the next member only when a member's token did not change. -/
theorem facts_union :
    proj ["dataset.MapEntities", "dataset.ProcessChanges", "d.Update", "processEntities", "ctx.Err"] skeleton_UnionRead
      = ["ctx.Err", "dataset.MapEntities", "d.Update", "dataset.ProcessChanges", "d.Update", "processEntities"]
    ∧ errChecked "set err = processEntities()" skeleton_UnionRead = true
    ∧ errChecked "ctx.Err" skeleton_UnionRead = true
    ∧ unionUpdate = ["t := c.ActiveToken()", "prevString := t.GetToken()", "c.Tokens[c.activeIdx] = &StringDatasetContinuation{newToken}",
        "if newToken == prevString { if c.activeIdx < len(c.Tokens)-1 { c.activeIdx = c.activeIdx + 1 return true } return false }", "return true"] := ⟨by decide +kernel, by decide +kernel, by decide +kernel, rfl⟩

open Hub.Facts.Pipeline Hub.Pipe in
/-- dataset source: one page per call, handed to the callback whose error is returned; the dataset sink stores
the batch through `Dataset.StoreEntities` (write-time duplicate detection, C01). -/
theorem facts_source_sink :
    proj ["dataset.ProcessChanges", "dataset.MapEntities", "processEntities"] skeleton_DatasetRead
      = ["dataset.ProcessChanges", "dataset.MapEntities", "dataset.ProcessChanges", "processEntities"]
    ∧ errChecked "processEntities" skeleton_DatasetRead = true
    ∧ skeleton_datasetSinkProcess = ["datasetSink.DatasetManager.IsDataset", "if !exists {", "return", "}", "datasetSink.DatasetManager.GetDataset", "dataset.StoreEntities", "return"] := ⟨by decide +kernel, by decide +kernel, rfl⟩

end Hub.C08
