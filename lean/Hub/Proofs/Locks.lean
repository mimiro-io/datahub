/-! The lock protocol, a model of its own (not `Hub.LockOrder`): a lock is its rank; a thread holds `held` (in acquisition
order) and still wants `todo`; one that has everything may release (two-phase). `progress`: under ascending acquisition
the thread that wants the greatest lock finds it free. -/
namespace Hub.Locks

structure Thread where
  held : List Nat
  todo : List Nat
  deriving Repr

def Thread.finished (t : Thread) : Prop := t.held = [] ∧ t.todo = []

/-- locks are taken in strictly ascending rank order -/
def Thread.ordered (t : Thread) : Prop := (t.held ++ t.todo).Pairwise (· < ·)

def free (ts : List Thread) (l : Nat) : Prop := ∀ t ∈ ts, l ∉ t.held

/-- `t` has everything and may release, or its next lock is free -/
def canStep (ts : List Thread) (t : Thread) : Prop :=
  (t.todo = [] ∧ t.held ≠ []) ∨ (∃ l rest, t.todo = l :: rest ∧ free ts l)

theorem blocked {ts : List Thread} {t h : Thread} {l : Nat} {rest : List Nat} (ht : t.todo = l :: rest)
    (hh : h ∈ ts) (hl : l ∈ h.held) : ¬ canStep ts t := by
  rintro (⟨h0, _⟩ | ⟨l', rest', hl', hf⟩)
  · cases ht.symm.trans h0
  · cases ht.symm.trans hl'
    exact hf h hh hl

theorem progress (ts : List Thread) (hord : ∀ t ∈ ts, t.ordered)
    (hun : ∃ t ∈ ts, ¬ t.finished) : ∃ t ∈ ts, canStep ts t := by
  by_cases hrel : ∃ t ∈ ts, t.todo = [] ∧ t.held ≠ []
  · exact hrel.imp fun t h => ⟨h.1, .inl h.2⟩
  have hwant : ∀ t ∈ ts, t.held ≠ [] ∨ ¬ t.finished → ∃ l, t.todo.head? = some l := by
    intro t ht h
    cases htodo : t.todo with
    | cons a _ => exact ⟨a, rfl⟩
    | nil =>
      have hheld : t.held = [] := Classical.not_not.1 fun hne => hrel ⟨t, ht, htodo, hne⟩
      exact (h.elim (· hheld) (· ⟨hheld, htodo⟩)).elim
  -- take the greatest lock `m` that anybody wants next
  cases hm : (ts.filterMap (·.todo.head?)).max? with
  | none =>
    obtain ⟨t, ht, hnf⟩ := hun
    obtain ⟨l, hl⟩ := hwant t ht (.inr hnf)
    cases List.max?_eq_none_iff.1 hm ▸ List.mem_filterMap.2 ⟨t, ht, hl⟩
  | some m =>
    obtain ⟨hmem, hmax⟩ := List.max?_eq_some_iff.1 hm
    obtain ⟨t, ht, htm⟩ := List.mem_filterMap.1 hmem
    obtain ⟨rest, hl⟩ := List.head?_eq_some_iff.1 htm
    refine ⟨t, ht, .inr ⟨m, rest, hl, fun h hh hheld => ?_⟩⟩
    -- `m` is free: a holder `h` would want a lock above `m` next
    obtain ⟨l', hl'⟩ := hwant h hh (.inl (List.ne_nil_of_mem hheld))
    obtain ⟨rest', hr⟩ := List.head?_eq_some_iff.1 hl'
    have ho : (h.held ++ h.todo).Pairwise (· < ·) := hord h hh
    rw [hr] at ho
    exact absurd (hmax l' (List.mem_filterMap.2 ⟨h, hh, hl'⟩))
      (Nat.not_le_of_lt ((List.pairwise_append.1 ho).2.2 m hheld l' List.mem_cons_self))

end Hub.Locks
