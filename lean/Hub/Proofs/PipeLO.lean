import Hub.Proofs.PipeInv
/-! Latest-only reads (`ProcessChanges(since, batch, latestOnly = true)`): a page emits, of the positions it looks at,
the versions that are the newest of their id in the whole feed at the time of the read. The invariant is weaker than for
full reads: below the cursor an id is up to date in the sink or occurs again at or above the cursor. -/
namespace Hub.PipeLO
open Hub.Pipe Hub.PipeInv

/-- what `readPage … true` emits for a key. -/
def emitLO (f : Feed) (k : Nat × Ver) : Option Ver := if isLatestAt f k.1 k.2 then some k.2 else none

def loPage (f : Feed) (since k : Nat) : List Ver :=
  (enumFrom since ((f.drop since).take k)).filterMap (fun e => emitLO f e.2)

theorem readPage_lo (f : Feed) (since batch : Nat) :
    ∃ k, k ≤ (f.drop since).length ∧ readPage f since batch true = (loPage f since k, since + k)
      ∧ (k = (f.drop since).length ∨ (0 < batch ∧ (loPage f since k).length = batch)) := by
  obtain ⟨k, page, hp⟩ := pageG_enum (emitLO f) f since batch
  obtain rfl : page = loPage f since k := hp.emitted
  exact ⟨k, hp.le, (readPage_eq f since batch true).trans hp.eq, hp.stop⟩

theorem mem_enumFrom_window {f : Feed} {since k : Nat} {e : Nat × Nat × Ver} :
    e ∈ enumFrom since ((f.drop since).take k) ↔ ∃ p w, e = (p, (p, w)) ∧ since ≤ p ∧ p < since + k ∧ f[p]? = some w := by
  rw [← zipIdx_map_enum, List.mem_map]
  -- position `p` of the feed is index `p - since` of the window, and `since + (p - since) = p`
  have hidx : ∀ {p}, since ≤ p → since + (p - since) = p := Nat.add_sub_cancel'
  constructor
  · rintro ⟨⟨w, p⟩, hm, rfl⟩
    obtain ⟨h1, h2⟩ := List.mem_zipIdx_iff_le_and_getElem?_sub.1 hm
    rw [List.getElem?_take, List.getElem?_drop] at h2
    split at h2
    · rw [hidx h1] at h2
      exact ⟨p, w, rfl, h1, by omega, h2⟩
    · cases h2
  · rintro ⟨p, w, rfl, h1, h2, h3⟩
    refine ⟨(w, p), List.mem_zipIdx_iff_le_and_getElem?_sub.2 ⟨h1, ?_⟩, rfl⟩
    rw [List.getElem?_take, List.getElem?_drop, if_pos (by omega), hidx h1]
    exact h3

theorem mem_loPage (f : Feed) (since k : Nat) (v : Ver) :
    v ∈ loPage f since k ↔ ∃ p, since ≤ p ∧ p < since + k ∧ f[p]? = some v ∧ isLatestAt f p v = true := by
  rw [loPage, List.mem_filterMap]
  constructor
  · rintro ⟨e, he, hv⟩
    obtain ⟨p, w, rfl, h1, h2, h3⟩ := mem_enumFrom_window.1 he
    -- the entry emits `w` iff `w` is the newest of its id
    by_cases hl : isLatestAt f p w = true
    · rw [emitLO, if_pos hl] at hv
      cases hv
      exact ⟨p, h1, h2, h3, hl⟩
    · rw [emitLO, if_neg hl] at hv
      cases hv
  · rintro ⟨p, h1, h2, h3, h4⟩
    exact ⟨(p, (p, v)), mem_enumFrom_window.2 ⟨p, v, rfl, h1, h2, h3⟩, by rw [emitLO, if_pos h4]⟩

/-- below the cursor `c`, an id is either still to come (it has an occurrence at or above `c`) or up to date in the
sink: the sink's latest version of it is the newest version of the source. -/
def InvLO (f g : Feed) (c : Nat) : Prop :=
  ∀ id, (∃ p, p < c ∧ Occ f id p) →
    (∃ p, c ≤ p ∧ Occ f id p) ∨ (∃ q v, f[q]? = some v ∧ v.id = id ∧ isLatestAt f q v = true ∧ latestV g id = some v)

theorem invLO_zero (f g : Feed) : InvLO f g 0 :=
  fun _ ⟨_, hp, _⟩ => absurd hp (Nat.not_lt_zero _)

theorem invLO_mono {f g : Feed} {c c' : Nat} (h : InvLO f g c) (hc : c' ≤ c) : InvLO f g c' := by
  intro id ⟨p, hp, ho⟩
  rcases h id ⟨p, Nat.lt_of_lt_of_le hp hc, ho⟩ with ⟨p2, hp2, ho2⟩ | h2
  · exact .inl ⟨p2, Nat.le_trans hc hp2, ho2⟩
  · exact .inr h2

theorem no_later_of_latest {f : Feed} {p : Nat} {v : Ver} (h : isLatestAt f p v = true) : ∀ p2, p < p2 → ¬ Occ f v.id p2 :=
  isLatestAt_iff.1 h

theorem invLO_deliver {f g : Feed} {cur : Nat} (h : InvLO f g cur) (k : Nat) :
    InvLO f (storeBatch g (loPage f cur k)) (cur + k) := by
  intro id ⟨p, hp, ho⟩
  by_cases hx : ∃ p2, cur + k ≤ p2 ∧ Occ f id p2
  · exact .inl hx
  · right
    rw [latestV_storeBatch]
    cases hl : latestV (loPage f cur k) id with
    | some w =>
      obtain ⟨i, hi, hid, _⟩ := latestV_eq_some.1 hl
      obtain ⟨q, _, _, hq, hlast⟩ := (mem_loPage f cur k w).1 (List.mem_of_getElem? hi)
      exact ⟨q, w, hq, hid, hlast, rfl⟩
    | none =>
      -- the newest occurrence of the id lies below `cur + k`; were it in the window, it would be in the page
      obtain ⟨q, v, hq, hid, hlast⟩ := ho.latest
      have hqk : q < cur + k := Nat.lt_of_not_le fun hle => hx ⟨q, hle, v, hq, hid⟩
      have hqc : q < cur := Nat.lt_of_not_le fun hle =>
        latestV_eq_none.1 hl v ((mem_loPage f cur k v).2 ⟨q, hle, hqk, hq, hlast⟩) hid
      rcases h id ⟨q, hqc, v, hq, hid⟩ with ⟨p2, hp2, ho2⟩ | hr
      · exact absurd (hid ▸ ho2) (isLatestAt_iff.1 hlast p2 (Nat.lt_of_lt_of_le hqc hp2))
      · exact hr

/-- an id that was up to date and is written again now has an occurrence above the cursor. -/
theorem invLO_write {f g : Feed} {c : Nat} (h : InvLO f g c) (hc : c ≤ f.length) (w : List Ver) : InvLO (f ++ w) g c := by
  intro id ⟨p, hp, ho⟩
  by_cases hx : ∃ p2, c ≤ p2 ∧ Occ (f ++ w) id p2
  · exact .inl hx
  · have hocc : ∀ p, Occ (f ++ w) id p → p < c ∧ Occ f id p := fun p ho =>
      have hp : p < c := Nat.lt_of_not_le fun hle => hx ⟨p, hle, ho⟩
      ⟨hp, (occ_append (Nat.lt_of_lt_of_le hp hc) w id).1 ho⟩
    rcases h id ⟨p, hp, (hocc p ho).2⟩ with ⟨p2, hp2, ho2⟩ | ⟨q, v, hq, rfl, hlast, hg⟩
    · exact absurd ⟨p2, hp2, (occ_append ho2.lt w id).2 ho2⟩ hx
    · exact .inr ⟨q, v, LastBy.getElem?_append_of_some hq w, rfl,
        isLatestAt_iff.2 fun p2 hlt ho2 => isLatestAt_iff.1 hlast p2 hlt (hocc p2 ho2).2, hg⟩

theorem converged_of_invLO {f g : Feed} (h : InvLO f g f.length) (id : Nat) (hocc : ∃ p, Occ f id p) :
    latestV g id = latestV f id := by
  obtain ⟨p, ho⟩ := hocc
  rcases h id ⟨p, ho.lt, ho⟩ with ⟨p2, hp2, ho2⟩ | ⟨q, v, hq, hid, hlast, hg⟩
  · exact absurd ho2.lt (Nat.not_lt_of_le hp2)
  · rw [hg, latestV_eq_some.2 ⟨q, hq, hid, hlast⟩]

theorem lo_page_step (f g : Feed) (cur batch : Nat) (hc : cur ≤ f.length) (h : InvLO f g cur) :
    let r := readPage f cur batch true
    InvLO f (storeBatch g r.1) r.2 ∧ cur ≤ r.2 ∧ r.2 ≤ f.length := by
  obtain ⟨k, -, hrp, -⟩ := readPage_lo f cur batch
  obtain ⟨hle, hlen, -⟩ := readPage_tok f cur batch true hc
  rw [hrp] at hle hlen ⊢
  exact ⟨invLO_deliver h k, hle, hlen⟩

theorem invLOPage : PageInv true InvLO where
  mono := invLO_mono
  write := invLO_write
  page := fun {f g c} b _ hc h => (lo_page_step f g c b hc h).1

def cfgLO (b : Nat) : Cfg := { union := false, latestOnly := true, batch := b }

structure SafeLO (f : Feed) (s : St) : Prop where
  srcs : s.srcs = [f]
  tokLe : pos s.tok ≤ f.length
  inv : InvLO f s.sink.feed (pos s.tok)

theorem safeLO_iff {f : Feed} {s : St} : SafeLO f s ↔ TokSafe InvLO f s :=
  ⟨fun h => ⟨h.srcs, h.tokLe, h.inv⟩, fun h => ⟨h.srcs, h.tokLe, h.inv⟩⟩

theorem readAll_cfgLO (b : Nat) (f : Feed) (flt : Faults) (p : Bool) (rs : RS) :
    readAll (cfgLO b) [f] flt p rs = loopDS f b true flt p (fuelOf [f]) rs := readAll_single b true f flt p rs

theorem runJob_safeLO (b : Nat) (hb : 0 < b) (flt : Faults) (s : St) (f : Feed) (h : SafeLO f s) :
    SafeLO f (runJob true (cfgLO b) false flt s).1
    ∧ ((runJob true (cfgLO b) false flt s).2 = .ok →
        ∀ id, (∃ p, Occ f id p) → latestV (runJob true (cfgLO b) false flt s).1.sink.feed id = latestV f id) :=
  have ⟨h1, h2⟩ := runJob_incr invLOPage hb true flt (safeLO_iff.1 h)
  ⟨safeLO_iff.2 h1, fun hok => converged_of_invLO (h2 hok ▸ h1.inv)⟩

inductive EvLO where
  | write (w : List Ver)
  | run (flt : Faults)

/-- as `PipeInv.stepEv`, with incremental runs only. -/
def stepEvLO (b : Nat) (s : St) : EvLO → St
  | .write w => writeSrc s 0 w
  | .run flt => (runJob true (cfgLO b) false flt s).1

theorem history_safeLO (b : Nat) (hb : 0 < b) : ∀ (evs : List EvLO) (s : St) (f : Feed), SafeLO f s →
    ∃ f', SafeLO f' (evs.foldl (stepEvLO b) s) := by
  intro evs s f h
  refine List.foldlRecOn evs (stepEvLO b) (motive := fun s => ∃ f', SafeLO f' s) ⟨f, h⟩ ?_
  rintro s ⟨f, h⟩ (w | flt) _
  · exact (writeSrc_tokSafe invLOPage (safeLO_iff.1 h) w).imp fun _ => safeLO_iff.2
  · exact ⟨f, (runJob_safeLO b hb flt s f h).1⟩

end Hub.PipeLO
