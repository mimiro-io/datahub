import Hub.Model.Store
/-! `sortBy` (insertion sort by a Boolean order): a permutation; sorted for a transitive, irreflexive order; the identity
on a sorted list. -/
namespace Hub.SortBy
open Hub.Store
variable {α : Type} (lt : α → α → Bool)

theorem insertBy_perm (x : α) (acc : List α) : (insertBy lt x acc).Perm (x :: acc) := by
  fun_induction insertBy lt x acc with
  | case1 => exact .refl _
  | case2 y ys h => exact .refl _
  | case3 y ys h ih => exact (ih.cons y).trans (.swap x y ys)

theorem foldl_insertBy_perm (l acc : List α) : (l.foldl (fun acc x => insertBy lt x acc) acc).Perm (l ++ acc) := by
  induction l generalizing acc with
  | nil => exact .refl _
  | cons x xs ih => exact (ih _).trans (((insertBy_perm lt x acc).append_left xs).trans List.perm_middle)

theorem sortBy_perm (l : List α) : (sortBy lt l).Perm l := by
  simpa [sortBy] using foldl_insertBy_perm lt l []

theorem mem_sortBy {l : List α} {x : α} : x ∈ sortBy lt l ↔ x ∈ l := (sortBy_perm lt l).mem_iff

abbrev Sorted (l : List α) : Prop := l.Pairwise fun a b => lt b a = false

variable {lt}

theorem asymm_of_trans (htr : ∀ a b c, lt a b → lt b c → lt a c) (hir : ∀ a, lt a a = false) (a b : α) (h : lt a b) :
    lt b a = false :=
  Bool.eq_false_iff.2 fun hb => Bool.eq_false_iff.1 (hir a) (htr a b a h hb)

/-- `R` is left open for two uses: `R a b := lt b a = false` for a strict `lt`, and `R := (· ≤ ·)` for
`lt := (· ≤ ·)`, where equal elements may repeat. -/
theorem insertBy_pairwise {R : α → α → Prop} (h1 : ∀ x y, lt x y → R x y) (h2 : ∀ x y, lt x y = false → R y x)
    (htr : ∀ x y z, lt x y → R y z → R x z) (x : α) (acc : List α) (h : acc.Pairwise R) :
    (insertBy lt x acc).Pairwise R := by
  fun_induction insertBy lt x acc with
  | case1 => exact List.pairwise_singleton _ _
  | case2 y ys hlt =>
    exact List.pairwise_cons.2 ⟨List.forall_mem_cons.2 ⟨h1 _ _ hlt, fun z hz => htr _ _ _ hlt ((List.pairwise_cons.1 h).1 z hz)⟩, h⟩
  | case3 y ys hlt ih =>
    have ⟨hy, hys⟩ := List.pairwise_cons.1 h
    refine List.pairwise_cons.2 ⟨fun z hz => ?_, ih hys⟩
    exact List.forall_mem_cons.2 ⟨h2 _ _ (Bool.eq_false_iff.2 hlt), hy⟩ z ((insertBy_perm lt x ys).mem_iff.1 hz)

theorem sortBy_pairwise {R : α → α → Prop} (h1 : ∀ x y, lt x y → R x y) (h2 : ∀ x y, lt x y = false → R y x)
    (htr : ∀ x y z, lt x y → R y z → R x z) (l : List α) : (sortBy lt l).Pairwise R :=
  List.foldlRecOn (motive := (·.Pairwise R)) l _ .nil fun acc h x _ => insertBy_pairwise h1 h2 htr x acc h

theorem sortBy_sorted (htr : ∀ a b c, lt a b → lt b c → lt a c) (hir : ∀ a, lt a a = false) (l : List α) :
    Sorted lt (sortBy lt l) :=
  sortBy_pairwise (asymm_of_trans htr hir) (fun _ _ h => h)
    (fun _ _ _ hxy hzy => Bool.eq_false_iff.2 fun hzx => Bool.eq_false_iff.1 hzy (htr _ _ _ hzx hxy)) l

theorem sortBy_strict (htr : ∀ a b c, lt a b → lt b c → lt a c) (hir : ∀ a, lt a a = false) {l : List α}
    (h : l.Pairwise fun a b => lt a b ∨ lt b a) : (sortBy lt l).Pairwise fun a b => lt a b := by
  -- no later element is smaller, and `lt` decides every pair of `l`, hence of its permutation
  have hs : Sorted lt (sortBy lt l) := sortBy_sorted htr hir l
  have hd : (sortBy lt l).Pairwise fun a b => lt a b ∨ lt b a := ((sortBy_perm lt l).pairwise_iff Or.symm).2 h
  exact (hs.and hd).imp fun ⟨hba, hor⟩ => hor.resolve_right (Bool.eq_false_iff.1 hba)

theorem insertBy_last (x : α) (acc : List α) (h : ∀ y ∈ acc, lt x y = false) : insertBy lt x acc = acc ++ [x] := by
  fun_induction insertBy lt x acc with
  | case1 => rfl
  | case2 y ys hlt => rw [h y (.head _)] at hlt; cases hlt
  | case3 y ys hlt ih => rw [ih fun z hz => h z (.tail _ hz)]; rfl

theorem sortBy_of_sorted {l : List α} (h : Sorted lt l) : sortBy lt l = l := by
  suffices g : ∀ l acc : List α, Sorted lt (acc ++ l) → l.foldl (fun acc x => insertBy lt x acc) acc = acc ++ l by
    simpa [sortBy] using g l [] (by simpa using h)
  intro l
  induction l with
  | nil => simp
  | cons x xs ih =>
    intro acc h
    rw [List.foldl_cons, insertBy_last x acc fun y hy => (List.pairwise_append.1 h).2.2 y hy x (by simp),
      ih _ (by simpa using h)]
    simp

/-! One step of a lexicographic order — compare a number, on a tie go on with `P` — hands transitivity and totality
of `P` on. -/

theorem lex_trans {a b c : Nat} {P Q R : Prop} (h : P → Q → R) :
    (a < b ∨ a = b ∧ P) → (b < c ∨ b = c ∧ Q) → (a < c ∨ a = c ∧ R) := by
  rintro (h1 | ⟨rfl, hp⟩) (h2 | ⟨rfl, hq⟩)
  · exact .inl (Nat.lt_trans h1 h2)
  · exact .inl h1
  · exact .inl h2
  · exact .inr ⟨rfl, h hp hq⟩

theorem lex_total {a b : Nat} {P Q E : Prop} (h : ¬P → ¬Q → E) :
    ¬(a < b ∨ a = b ∧ P) → ¬(b < a ∨ b = a ∧ Q) → a = b ∧ E := by
  intro h1 h2
  have e : a = b := Nat.le_antisymm (Nat.not_lt.1 fun h => h2 (.inl h)) (Nat.not_lt.1 fun h => h1 (.inl h))
  exact ⟨e, h (fun p => h1 (.inr ⟨e, p⟩)) fun q => h2 (.inr ⟨e.symm, q⟩)⟩

end Hub.SortBy
