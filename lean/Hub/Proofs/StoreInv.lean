import Hub.Proofs.Assoc
import Hub.Proofs.Frame
/-!
# Refinement of the write path to the version-history specification

The specification keeps, per (dataset, id), the accepted versions and, per dataset, the feed and the ids ever stored.
`writeOne` (the Go loop body) refines `specOne` for every batch: repeated ids, delete/un-delete, any length.
-/
namespace Hub.StoreInv
open Hub.Store Hub.Assoc

structure SVer where
  t : Nat
  seq : Nat
  e : Ent
  deriving DecidableEq, Repr

structure Spec where
  vers : Nat → Nat → List SVer := fun _ _ => []     -- dataset → id → accepted versions, oldest first
  feed : Nat → List VKey := fun _ => []              -- dataset → version keys in acceptance order
  ids : Nat → List Nat := fun _ => []                -- dataset → distinct ids, first-seen order

def lastEnt (vs : List SVer) : Option Ent := vs.getLast?.map (·.e)

def specCount (ds : Nat) (S : Spec) (rid : Nat) : Spec :=
  if S.vers ds rid = [] then { S with ids := fun d => if d = ds then S.ids ds ++ [rid] else S.ids d } else S

def specAppend (ds t i : Nat) (S : Spec) (e : Ent) : Spec :=
  { S with
    vers := fun d j => if d = ds ∧ j = e.rid then S.vers ds e.rid ++ [⟨t, i, e⟩] else S.vers d j,
    feed := fun d => if d = ds then S.feed ds ++ [⟨e.rid, ds, t, i⟩] else S.feed d }

/-- an element identical to the version it would replace adds nothing, any other adds exactly one version and one
feed entry. -/
def specOne (ds t : Nat) (S : Spec) (x : Nat × Ent) : Spec :=
  let S1 := specCount ds S x.2.rid
  if lastEnt (S.vers ds x.2.rid) = some x.2 then S1 else specAppend ds t x.1 S1 x.2

/-- `specCount`, `specAppend`, `specOne`, `specFrom` mirror `countNew`, `appendVersion`, `writeOne`, `writeFrom` one for one. -/
def specFrom (ds t : Nat) : Nat → List Ent → Spec → Spec
  | _, [], S => S
  | i, e :: xs, S => specFrom ds t (i + 1) xs (specOne ds t S (i, e))

/-- the versions of (dataset, id) in log order: the model's `versionsOfEntity` without the sort (and with `decide (· = ·)`
for its `==`). -/
def versOf (db : DB) (ds id : Nat) : List (VKey × Ent) :=
  db.versions.filter fun v => decide (v.1.ds = ds ∧ v.1.rid = id)

/-- the change-log entries of a dataset in log order: the model's `changesOf` without the sort (`C02.changesOf_eq_feedOf`). -/
def feedOf (db : DB) (ds : Nat) : List (Nat × VKey) :=
  (db.changes.filter fun c => decide (c.1 = ds)).map (·.2)

/-- `lat`: the latest pointer is the key of the last version in *log* order (`versOf` is not sorted by key).
`ridOk`: the write path files `e` under `e.rid`. -/
structure InvV (db : DB) (S : Spec) : Prop where
  vers : ∀ ds id, (versOf db ds id).map (fun v => (⟨v.1.t, v.1.seq, v.2⟩ : SVer)) = S.vers ds id
  nodup : (db.versions.map (·.1)).Nodup
  lat : ∀ ds id, db.latestOf ds id = (versOf db ds id).getLast?.map (·.1)
  latNodup : (db.latest.map (·.1)).Nodup
  ridOk : ∀ ds id, ∀ v ∈ S.vers ds id, v.e.rid = id

/-- `bound` keeps `inc` when an entry is appended at `posOf`, and lets a token taken at the end see nothing. -/
structure InvF (db : DB) (S : Spec) : Prop where
  feed : ∀ ds, (feedOf db ds).map (·.2) = S.feed ds
  inc : ∀ ds, (feedOf db ds).Pairwise (fun a b => a.1 < b.1)
  bound : ∀ ds, ∀ c ∈ feedOf db ds, c.1 < db.posOf ds

/-- `mem`: an id without a version is not among the counted ones, which keeps `nodup` when `countNew` counts a new id. -/
structure InvC (db : DB) (S : Spec) : Prop where
  items : ∀ ds, db.itemsOf ds = (S.ids ds).length
  nodup : ∀ ds, (S.ids ds).Nodup
  mem : ∀ ds id, id ∈ S.ids ds ↔ S.vers ds id ≠ []

structure Inv (db : DB) (S : Spec) : Prop where
  v : InvV db S
  f : InvF db S
  c : InvC db S

theorem stored_eq_last {db : DB} {S : Spec} (inv : InvV db S) (ds id : Nat) :
    db.stored ds id = lastEnt (S.vers ds id) := by
  unfold DB.stored lastEnt
  rw [inv.lat ds id, ← inv.vers ds id, List.getLast?_map]
  cases h : (versOf db ds id).getLast? with
  | none => simp
  | some v =>
    have hm : v ∈ db.versions := (List.mem_filter.1 (List.mem_of_getLast? h)).1
    exact lookup_of_mem_nodup db.versions inv.nodup (k := v.1) (v := v.2) hm

theorem lastEnt_none {vs : List SVer} : lastEnt vs = none ↔ vs = [] := by
  simp [lastEnt]

theorem ne_nil_of_lastEnt {vs : List SVer} {e : Ent} (h : lastEnt vs = some e) : vs ≠ [] :=
  fun h0 => by simp [h0, lastEnt] at h

theorem lastEnt_append (vs : List SVer) (v : SVer) : lastEnt (vs ++ [v]) = some v.e := by
  rw [lastEnt, List.getLast?_concat]; rfl

theorem specCount_eq (ds : Nat) (S : Spec) (rid : Nat) :
    specCount ds S rid = { S with ids := fun d => if d = ds ∧ S.vers ds rid = [] then S.ids ds ++ [rid] else S.ids d } := by
  unfold specCount
  split <;> simp [*]

theorem specCount_vers (ds : Nat) (S : Spec) (rid : Nat) : (specCount ds S rid).vers = S.vers := by
  rw [specCount_eq]
theorem specCount_feed (ds : Nat) (S : Spec) (rid : Nat) : (specCount ds S rid).feed = S.feed := by
  rw [specCount_eq]

theorem specOne_skip {ds t : Nat} {S : Spec} {x : Nat × Ent} (h : lastEnt (S.vers ds x.2.rid) = some x.2) :
    specOne ds t S x = S := by
  -- the entity is not new, so it is not counted either
  simp [specOne, h, specCount, ne_nil_of_lastEnt h]

theorem specOne_append {ds t : Nat} {S : Spec} {x : Nat × Ent} (h : lastEnt (S.vers ds x.2.rid) ≠ some x.2) :
    specOne ds t S x = specAppend ds t x.1 (specCount ds S x.2.rid) x.2 := if_neg h

theorem specOne_vers (ds t : Nat) (S : Spec) (x : Nat × Ent) (d j : Nat) :
    (specOne ds t S x).vers d j =
      if d = ds ∧ j = x.2.rid ∧ lastEnt (S.vers ds x.2.rid) ≠ some x.2 then S.vers ds x.2.rid ++ [⟨t, x.1, x.2⟩]
      else S.vers d j := by
  by_cases h : lastEnt (S.vers ds x.2.rid) = some x.2
  · simp [specOne_skip h, h]
  · simp [specOne_append h, specAppend, specCount_vers, h]

theorem specOne_feed (ds t : Nat) (S : Spec) (x : Nat × Ent) (d : Nat) :
    (specOne ds t S x).feed d =
      if d = ds ∧ lastEnt (S.vers ds x.2.rid) ≠ some x.2 then S.feed ds ++ [⟨x.2.rid, ds, t, x.1⟩] else S.feed d := by
  by_cases h : lastEnt (S.vers ds x.2.rid) = some x.2
  · simp [specOne_skip h, h]
  · simp [specOne_append h, specAppend, specCount_feed, h]

theorem specOne_ids (ds t : Nat) (S : Spec) (x : Nat × Ent) (d : Nat) :
    (specOne ds t S x).ids d = if d = ds ∧ S.vers ds x.2.rid = [] then S.ids ds ++ [x.2.rid] else S.ids d := by
  by_cases h : lastEnt (S.vers ds x.2.rid) = some x.2
  · simp [specOne_skip h, ne_nil_of_lastEnt h]
  · simp [specOne_append h, specAppend, specCount_eq]

section accepted
variable {db : DB} {S : Spec} {ds t i : Nat} {e : Ent} {prev : Option Ent} {inBatch isnew : Bool}

theorem versOf_appendVersion (d j : Nat) :
    versOf (appendVersion db ds t i e prev inBatch isnew) d j =
      if d = ds ∧ j = e.rid then versOf db ds e.rid ++ [(⟨e.rid, ds, t, i⟩, e)] else versOf db d j := by
  simp only [versOf, appendVersion, List.filter_append]
  by_cases h : d = ds ∧ j = e.rid
  · simp [h]
  · have h' : ¬ (ds = d ∧ e.rid = j) := fun ⟨a, b⟩ => h ⟨a.symm, b.symm⟩
    simp [h, h']

theorem latestOf_appendVersion (d j : Nat) :
    (appendVersion db ds t i e prev inBatch isnew).latestOf d j = if d = ds ∧ j = e.rid then some ⟨e.rid, ds, t, i⟩ else db.latestOf d j := by
  simp [DB.latestOf, appendVersion, lookup_setAssoc]

theorem feedOf_appendVersion (d : Nat) :
    feedOf (appendVersion db ds t i e prev inBatch isnew) d =
      if d = ds then feedOf db ds ++ [(db.posOf ds, ⟨e.rid, ds, t, i⟩)] else feedOf db d := by
  simp only [feedOf, appendVersion, List.filter_append, List.map_append]
  by_cases h : d = ds
  · simp [h]
  · have h' : ¬ ds = d := fun a => h a.symm
    simp [h, h']

theorem posOf_appendVersion (d : Nat) :
    (appendVersion db ds t i e prev inBatch isnew).posOf d = if d = ds then db.posOf ds + 1 else db.posOf d := by
  simp only [DB.posOf, appendVersion, lookup_setAssoc, beq_iff_eq]
  split <;> rfl

theorem itemsOf_countNew (d : Nat) :
    (countNew db ds prev).itemsOf d = if d = ds ∧ prev = none then db.itemsOf ds + 1 else db.itemsOf d := by
  cases prev with
  | some p => simp [countNew]
  | none =>
    simp only [countNew, DB.itemsOf, Option.isNone_none, if_true, lookup_setAssoc, and_true, beq_iff_eq]
    by_cases h : d = ds <;> simp [h]

theorem count_invV (h : InvV db S) (rid : Nat) : InvV (countNew db ds prev) (specCount ds S rid) := by
  rw [countNew_eq, specCount_eq]
  exact ⟨h.vers, h.nodup, h.lat, h.latNodup, h.ridOk⟩

theorem count_invF (h : InvF db S) (rid : Nat) : InvF (countNew db ds prev) (specCount ds S rid) := by
  rw [countNew_eq, specCount_eq]
  exact ⟨h.feed, h.inc, h.bound⟩

theorem append_invV (h : InvV db S) (hb : ∀ v ∈ db.versions, v.1.ds = ds → v.1.t = t → v.1.seq < i) :
    InvV (appendVersion db ds t i e prev inBatch isnew) (specAppend ds t i S e) := by
  refine ⟨fun d j => ?_, ?_, fun d j => ?_, setAssoc_keys_nodup h.latNodup, fun d j v hv => ?_⟩
  · rw [versOf_appendVersion]
    simp only [specAppend]
    split
    · rw [List.map_append, h.vers]; rfl
    · exact h.vers d j
  · simp only [appendVersion, List.map_append, List.map_cons, List.map_nil]
    refine List.nodup_append.2 ⟨h.nodup, by simp, fun a ha b hb' hk => ?_⟩
    -- a key of this batch and dataset has a smaller sequence number
    obtain ⟨v, hv, rfl⟩ := List.mem_map.1 ha
    rw [List.mem_singleton.1 hb'] at hk
    have := hb v hv (congrArg VKey.ds hk) (congrArg VKey.t hk)
    rw [hk] at this
    exact Nat.lt_irrefl i this
  · rw [latestOf_appendVersion, versOf_appendVersion]
    split
    · rw [List.getLast?_concat]; rfl
    · exact h.lat d j
  · simp only [specAppend] at hv
    split at hv
    · rename_i hk
      rcases List.mem_append.1 hv with hv | hv
      · rw [hk.2]; exact h.ridOk ds e.rid v hv
      · simp at hv; rw [hv]; exact hk.2.symm
    · exact h.ridOk d j v hv

theorem append_invF (h : InvF db S) :
    InvF (appendVersion db ds t i e prev inBatch isnew) (specAppend ds t i S e) := by
  refine ⟨fun d => ?_, fun d => ?_, fun d c hc => ?_⟩
  · rw [feedOf_appendVersion]
    simp only [specAppend]
    split
    · rw [List.map_append, h.feed]; rfl
    · exact h.feed d
  · rw [feedOf_appendVersion]
    split
    · refine List.pairwise_append.2 ⟨h.inc ds, List.pairwise_singleton .., fun a ha b hb => ?_⟩
      rw [List.mem_singleton.1 hb]; exact h.bound ds a ha
    · exact h.inc d
  · rw [posOf_appendVersion]
    rw [feedOf_appendVersion] at hc
    by_cases hd : d = ds
    · rw [if_pos hd] at hc ⊢
      rcases List.mem_append.1 hc with hc | hc
      · exact Nat.lt_succ_of_lt (h.bound ds c hc)
      · rw [List.mem_singleton.1 hc]; exact Nat.lt_succ_self _
    · rw [if_neg hd] at hc ⊢
      exact h.bound d c hc

/-- Between `countNew` and `appendVersion` the id is counted but has no version yet, so the counter's invariant is
stated across both. -/
theorem count_append_invC (h : InvC db S) (hp : prev = lastEnt (S.vers ds e.rid)) :
    InvC (appendVersion (countNew db ds prev) ds t i e prev inBatch isnew) (specAppend ds t i (specCount ds S e.rid) e) := by
  have hnone : prev = none ↔ S.vers ds e.rid = [] := hp ▸ lastEnt_none
  have hids : ∀ d, (specAppend ds t i (specCount ds S e.rid) e).ids d
      = if d = ds ∧ S.vers ds e.rid = [] then S.ids ds ++ [e.rid] else S.ids d := fun d => by
    rw [specCount_eq]; rfl
  refine ⟨fun d => ?_, fun d => ?_, fun d id => ?_⟩
  · show (countNew db ds prev).itemsOf d = _
    simp only [itemsOf_countNew, hids, hnone]
    split
    · simp [h.items]
    · exact h.items d
  · rw [hids]
    split
    next hd =>
      exact List.nodup_append.2 ⟨h.nodup ds, by simp, fun a ha b hb hab =>
        (h.mem ds a).1 ha (hab ▸ List.mem_singleton.1 hb ▸ hd.2)⟩
    next => exact h.nodup d
  · rw [hids]
    simp only [specAppend, specCount_vers]
    by_cases hk : d = ds ∧ id = e.rid
    · obtain ⟨rfl, rfl⟩ := hk
      by_cases h0 : S.vers d e.rid = []
      · simp [h0]
      · simp [h0, h.mem]
    · rw [if_neg hk, ← h.mem]
      split
      · rename_i hd
        have hne : id ≠ e.rid := fun b => hk ⟨hd.1, b⟩
        simp [hd.1, hne]
      · rfl

end accepted

/-- `prev`: what the loop takes for the version to replace (`localLatests`, else the snapshot) is the specification's
last version so far. `bound`: the sequence numbers below `i` are used up. -/
structure LoopInv (snap : DB) (ds t i : Nat) (db : DB) (loc : List (Nat × Ent)) (S : Spec) : Prop where
  inv : Inv db S
  prev : ∀ rid, prevOf snap ds loc rid = lastEnt (S.vers ds rid)
  bound : ∀ v ∈ db.versions, v.1.ds = ds → v.1.t = t → v.1.seq < i

theorem prevOf_cons (snap : DB) (ds r : Nat) (p : Ent) (loc : List (Nat × Ent)) (rid : Nat) :
    prevOf snap ds ((r, p) :: loc) rid = if rid = r then some p else prevOf snap ds loc rid := by
  by_cases h : rid = r
  · simp [prevOf, h]
  · simp only [prevOf, lookup_cons_ne h, if_neg h]

theorem step_ok {snap : DB} {ds t i : Nat} (nw : List Nat) {db : DB} {loc : List (Nat × Ent)} {S : Spec}
    (h : LoopInv snap ds t i db loc S) (e : Ent) :
    LoopInv snap ds t (i + 1) (writeOne snap ds t nw (db, loc) (i, e)).1
      (writeOne snap ds t nw (db, loc) (i, e)).2 (specOne ds t S (i, e)) := by
  have hp := h.prev e.rid
  by_cases heq : prevOf snap ds loc e.rid = some e
  · rw [writeOne_skip heq, specOne_skip (hp ▸ heq)]
    exact { inv := h.inv, prev := h.prev, bound := fun v hv hd ht => Nat.lt_succ_of_lt (h.bound v hv hd ht) }
  · rw [writeOne_append heq, specOne_append (hp ▸ heq)]
    have hb : ∀ v ∈ (countNew db ds (prevOf snap ds loc e.rid)).versions, v.1.ds = ds → v.1.t = t → v.1.seq < i := by
      rw [countNew_eq]; exact h.bound
    refine { inv := ⟨append_invV (count_invV h.inv.v e.rid) hb, append_invF (count_invF h.inv.f e.rid),
                     count_append_invC h.inv.c hp⟩,
             prev := fun rid => ?_, bound := fun v hv hd ht => ?_ }
    · rw [prevOf_cons]
      simp only [specAppend, specCount_vers]
      by_cases hr : rid = e.rid
      · simp [hr, lastEnt_append]
      · simpa [hr] using h.prev rid
    · rcases List.mem_append.1 hv with hv | hv
      · exact Nat.lt_succ_of_lt (hb v hv hd ht)
      · rw [List.mem_singleton.1 hv]; exact Nat.lt_succ_self i

theorem loop_ok {snap : DB} (ds t : Nat) (nw : List Nat) (xs : List Ent) {i : Nat} {db : DB} {loc : List (Nat × Ent)} {S : Spec}
    (h : LoopInv snap ds t i db loc S) : Inv (writeFrom snap ds t nw i xs (db, loc)).1 (specFrom ds t i xs S) := by
  induction xs generalizing i db loc S with
  | nil => exact h.inv
  | cons e xs ih => exact ih (step_ok nw h e)

theorem inv_storeBatch {db : DB} {S : Spec} (h : Inv db S) (ds t : Nat)
    (hfresh : ∀ v ∈ db.versions, v.1.ds = ds → v.1.t < t) (b : List Ent) (nw : List Nat) :
    Inv (storeBatch db ds t b nw) (specFrom ds t 0 b S) :=
  loop_ok ds t nw b (i := 0) (loc := [])
    { inv := h, prev := stored_eq_last h.v ds, bound := fun v hv hd ht => absurd ht (Nat.ne_of_lt (hfresh v hv hd)) }

theorem inv_empty : Inv {} {} where
  v := { vers := fun _ _ => rfl, nodup := .nil, lat := fun _ _ => rfl, latNodup := .nil, ridOk := fun _ _ _ hv => nomatch hv }
  f := { feed := fun _ => rfl, inc := fun _ => .nil, bound := fun _ _ hc => nomatch hc }
  c := { items := fun _ => rfl, nodup := fun _ => .nil, mem := fun _ _ => by simp }

end Hub.StoreInv
