import Hub.Model.Pipeline
import Hub.Proofs.Paging
import Hub.Proofs.LastBy
/-! Token safety of the detailed pipeline model (`Hub.Pipe`) over one dataset source: `Inv f g c` is what a stored token
`c` promises of the sink (the idea of `Hub.Sync`'s invariant; no lemma relates the two models). The argument about runs
needs only `PageInv` of it and is used again in `Hub.PipeLO`. -/
namespace Hub.PipeInv
open Hub.Pipe

theorem latestV_append (g b : Feed) (id : Nat) : latestV (g ++ b) id = (latestV b id).or (latestV g id) := by
  simp [latestV, List.find?_append]

theorem latestV_eq_none {f : Feed} {id : Nat} : latestV f id = none ↔ ∀ v ∈ f, v.id ≠ id :=
  LastBy.find?_reverse_eq_none

theorem latestV_eq_some {f : Feed} {id : Nat} {v : Ver} :
    latestV f id = some v ↔ ∃ q, f[q]? = some v ∧ v.id = id ∧ isLatestAt f q v = true := by
  simp only [isLatestAt, Bool.not_eq_true']
  exact LastBy.find?_reverse_eq_some

/-- the sink's write-time duplicate detection does not show in the latest versions. -/
theorem latestV_storeBatch : ∀ (b : List Ver) (g : Feed) (id : Nat),
    latestV (storeBatch g b) id = (latestV b id).or (latestV g id)
  | [], g, id => by simp [storeBatch, latestV]
  | v :: b, g, id => by
    have h1 : latestV (store1 g v) id = latestV (g ++ [v]) id := by
      unfold store1; split
      · rename_i hd
        by_cases h : v.id = id
        · subst h; rw [hd]; simp [latestV]
        · simp [latestV, h]
      · rfl
    show latestV (storeBatch (store1 g v) b) id = _
    -- `(g ++ [v]) ++ b` is re-bracketed as `g ++ (v :: b)`
    rw [latestV_storeBatch b, h1, ← latestV_append, List.append_assoc, latestV_append]; rfl

/-- `id` changes at position `p` of the feed. -/
def Occ (f : Feed) (id p : Nat) : Prop := ∃ v, f[p]? = some v ∧ v.id = id

theorem Occ.lt {f : Feed} {id p : Nat} (h : Occ f id p) : p < f.length :=
  let ⟨_, hv, _⟩ := h; (List.getElem?_eq_some_iff.1 hv).1

theorem occ_append {f : Feed} {p : Nat} (hp : p < f.length) (w : Feed) (id : Nat) : Occ (f ++ w) id p ↔ Occ f id p := by
  unfold Occ; rw [List.getElem?_append_left hp]

theorem isLatestAt_iff {f : Feed} {q : Nat} {v : Ver} : isLatestAt f q v = true ↔ ∀ p, q < p → ¬ Occ f v.id p := by
  rw [isLatestAt, Bool.not_eq_true', LastBy.any_drop_eq_false]
  exact ⟨fun h p hp ⟨w, hw, hid⟩ => h p w hp hw hid, fun h p w hp hw hid => h p hp ⟨w, hw, hid⟩⟩

theorem Occ.latest {f : Feed} {id p : Nat} (ho : Occ f id p) : ∃ q v, f[q]? = some v ∧ v.id = id ∧ isLatestAt f q v = true := by
  obtain ⟨v0, hv0, hid0⟩ := ho
  cases hl : latestV f id with
  | none => exact absurd hid0 (latestV_eq_none.1 hl v0 (List.mem_of_getElem? hv0))
  | some v => exact let ⟨q, h⟩ := latestV_eq_some.1 hl; ⟨q, v, h⟩

/-- for every id changed below `c`, the sink's latest version of it is a source version at a position not before
any change of the id below `c`. -/
def Inv (f g : Feed) (c : Nat) : Prop :=
  ∀ id, (∃ p, p < c ∧ Occ f id p) →
    ∃ q v, f[q]? = some v ∧ v.id = id ∧ (∀ p, p < c → Occ f id p → p ≤ q) ∧ latestV g id = some v

theorem inv_zero (f g : Feed) : Inv f g 0 :=
  fun _ ⟨_, hp, _⟩ => absurd hp (Nat.not_lt_zero _)

theorem inv_mono {f g : Feed} {c c' : Nat} (h : Inv f g c) (hc : c' ≤ c) : Inv f g c' := by
  intro id ⟨p, hp, ho⟩
  obtain ⟨q, v, hq, hid, hmax, hg⟩ := h id ⟨p, Nat.lt_of_lt_of_le hp hc, ho⟩
  exact ⟨q, v, hq, hid, fun p' hp' ho' => hmax p' (Nat.lt_of_lt_of_le hp' hc) ho', hg⟩

theorem inv_write {f g : Feed} {c : Nat} (h : Inv f g c) (hc : c ≤ f.length) (w : List Ver) : Inv (f ++ w) g c := by
  intro id ⟨p, hp, ho⟩
  have hocc : ∀ p, p < c → (Occ (f ++ w) id p ↔ Occ f id p) := fun p hp => occ_append (Nat.lt_of_lt_of_le hp hc) w id
  obtain ⟨q, v, hq, hid, hmax, hg⟩ := h id ⟨p, hp, (hocc p hp).1 ho⟩
  exact ⟨q, v, LastBy.getElem?_append_of_some hq w, hid, fun p' hp' ho' => hmax p' hp' ((hocc p' hp').1 ho'), hg⟩

theorem getElem?_slice {α : Type} (f : List α) (c b q : Nat) (h1 : c ≤ q) (h2 : q < c + ((f.drop c).take b).length) :
    ((f.drop c).take b)[q - c]? = f[q]? := by
  rw [List.length_take] at h2
  rw [List.getElem?_take_of_lt (by omega), List.getElem?_drop, Nat.add_sub_cancel' h1]

theorem inv_deliver {f g : Feed} {cur : Nat} (h : Inv f g cur) (page : List Ver)
    (hpage : ∀ q, cur ≤ q → q < cur + page.length → page[q - cur]? = f[q]?) :
    Inv f (storeBatch g page) (cur + page.length) := by
  intro id ⟨p, hp, ho⟩
  -- an occurrence of the id below the new position lies below `cur` or is an occurrence in the page
  have hsplit : ∀ p', p' < cur + page.length → Occ f id p' → p' < cur ∨ Occ page id (p' - cur) := fun p' h2 ho' =>
    (Nat.lt_or_ge p' cur).imp_right fun h1 => by rwa [Occ, hpage p' h1 h2]
  rw [latestV_storeBatch]
  cases hl : latestV page id with
  | some w =>
    obtain ⟨i, hi, hid, hlast⟩ := latestV_eq_some.1 hl
    have hw := hpage (cur + i) (Nat.le_add_right _ _) (Nat.add_lt_add_left (List.getElem?_eq_some_iff.1 hi).1 cur)
    rw [Nat.add_sub_cancel_left, hi] at hw
    refine ⟨cur + i, w, hw.symm, hid, fun p' hp' ho' => ?_, rfl⟩
    rcases hsplit p' hp' ho' with hlt | hop
    · exact Nat.le_trans (Nat.le_of_lt hlt) (Nat.le_add_right _ _)
    · have : ¬ i < p' - cur := fun hlt => isLatestAt_iff.1 hlast _ hlt (hid ▸ hop)
      omega
  | none =>
    have hbelow : ∀ p', p' < cur + page.length → Occ f id p' → p' < cur := fun p' hp' ho' =>
      (hsplit p' hp' ho').resolve_right fun ⟨v', hv', hid'⟩ => latestV_eq_none.1 hl v' (List.mem_of_getElem? hv') hid'
    obtain ⟨q, v, hq, hid, hmax, hg⟩ := h id ⟨p, hbelow p hp ho, ho⟩
    exact ⟨q, v, hq, hid, fun p' hp' ho' => hmax p' (hbelow p' hp' ho') ho', hg⟩

theorem converged_of_inv {f g : Feed} (h : Inv f g f.length) (id : Nat) (hocc : ∃ p, Occ f id p) :
    latestV g id = latestV f id := by
  obtain ⟨p, ho⟩ := hocc
  obtain ⟨q, v, hq, hid, hmax, hg⟩ := h id ⟨p, ho.lt, ho⟩
  rw [hg, eq_comm, latestV_eq_some]
  refine ⟨q, hq, hid, isLatestAt_iff.2 fun p' hp' ho' => ?_⟩
  exact Nat.not_le_of_lt hp' (hmax p' (hid ▸ ho').lt (hid ▸ ho'))

theorem inv_congr {f g g' : Feed} {c : Nat} (h : Inv f g c)
    (hg : ∀ id, (∃ p, Occ f id p) → latestV g' id = latestV g id) : Inv f g' c := by
  intro id ⟨p, hp, ho⟩
  obtain ⟨q, v, hq, hid, hmax, hv⟩ := h id ⟨p, hp, ho⟩
  exact ⟨q, v, hq, hid, hmax, by rw [hg id ⟨p, ho⟩]; exact hv⟩

/-- the change log `readPage` scans: its `f.zipIdx.map …` is `enumFrom 0 f` (`zipIdx_map_enum`). Recursive, for the inductions
over filter, take and drop; length and membership go back to `zipIdx`. -/
def enumFrom : Nat → Feed → List (Nat × (Nat × Ver))
  | _, [] => []
  | n, v :: vs => (n, (n, v)) :: enumFrom (n + 1) vs

theorem zipIdx_map_enum : ∀ (f : Feed) (n : Nat), (f.zipIdx n).map (fun p => (p.2, (p.2, p.1))) = enumFrom n f
  | [], _ => rfl
  | v :: vs, n => by simp [List.zipIdx_cons, enumFrom, zipIdx_map_enum vs (n + 1)]

open Hub.Store in
theorem fromPos_enum : ∀ (f : Feed) (n since : Nat),
    fromPos since (enumFrom n f) = enumFrom (max since n) (f.drop (since - n))
  | [], _, _ => by simp [fromPos, enumFrom]
  | v :: vs, n, since => by
    have ih := fromPos_enum vs (n + 1) since
    unfold fromPos at ih ⊢
    by_cases h : since ≤ n
    · have h' : since ≤ n + 1 := Nat.le_succ_of_le h
      rw [enumFrom, List.filter_cons_of_pos (by simpa using h), ih]
      simp only [Nat.sub_eq_zero_of_le h, Nat.sub_eq_zero_of_le h', Nat.max_eq_right h, Nat.max_eq_right h', List.drop_zero]
      rfl
    · have hlt : n < since := Nat.lt_of_not_le h
      have hsub : since - n = since - (n + 1) + 1 := by omega
      rw [enumFrom, List.filter_cons_of_neg (by simpa using h), ih, hsub, List.drop_succ_cons, Nat.max_eq_left hlt,
        Nat.max_eq_left (Nat.le_of_lt hlt)]

theorem length_enumFrom (f : Feed) (n : Nat) : (enumFrom n f).length = f.length := by
  rw [← zipIdx_map_enum, List.length_map, List.length_zipIdx]

theorem enumFrom_take : ∀ (f : Feed) (n k : Nat), (enumFrom n f).take k = enumFrom n (f.take k)
  | [], _, _ => by simp [enumFrom]
  | _ :: _, _, 0 => rfl
  | v :: vs, n, k + 1 => by rw [enumFrom, List.take_succ_cons, List.take_succ_cons, enumFrom, enumFrom_take vs]

theorem getLast?_enumFrom (f : Feed) (n : Nat) :
    (enumFrom n f).getLast?.map (·.1) = if f.length = 0 then none else some (n + f.length - 1) := by
  rw [← zipIdx_map_enum, List.getLast?_map, List.getLast?_zipIdx]
  cases f with
  | nil => rfl
  | cons v vs => rw [List.getLast?_eq_some_getLast (List.cons_ne_nil v vs)]; rfl

/-- `k` is the number of feed positions the scan looked at from `since`, not the length of `page`. `eq` speaks of the whole
change log `enumFrom 0 f`, as `readPage` does; `emitted` of the window of positions `[since, since + k)`. -/
structure PageOf (emit : Nat × Ver → Option Ver) (f : Feed) (since limit k : Nat) (page : List Ver) : Prop where
  le : k ≤ (f.drop since).length
  emitted : page = (enumFrom since ((f.drop since).take k)).filterMap (fun e => emit e.2)
  eq : Hub.Store.pageG emit (enumFrom 0 f) since limit = (page, since + k)
  stop : k = (f.drop since).length ∨ (0 < limit ∧ page.length = limit)   -- the end of the feed, or a full page
  bound : 0 < limit → page.length ≤ limit

open Hub.Store Hub.Paging in
theorem pageG_enum (emit : Nat × Ver → Option Ver) (f : Feed) (since limit : Nat) : ∃ k page, PageOf emit f since limit k page := by
  obtain ⟨pre, hs⟩ := scan_spec emit limit (enumFrom since (f.drop since)) [] none
  generalize hr : scanG emit limit (enumFrom since (f.drop since)) [] none = r at hs
  have hpg : pageG emit (enumFrom 0 f) since limit = (r.1, match r.2.1 with | some p => p + 1 | none => since) := by
    rw [pageG, fromPos_enum, Nat.max_zero, Nat.sub_zero, hr]; rfl
  -- the keys looked at are the first `k = pre.length` positions from `since`
  have hk : pre.length ≤ (f.drop since).length := by
    rw [← length_enumFrom _ since, hs.rest, List.length_append]; exact Nat.le_add_right _ _
  have hpre : pre = enumFrom since ((f.drop since).take pre.length) := by
    rw [← enumFrom_take, hs.rest, List.take_left]
  generalize pre.length = k at hk hpre
  subst hpre
  -- the token is one past the last position looked at, `since` itself when none was
  have htok : (match r.2.1 with | some p => p + 1 | none => since) = since + k := by
    rw [hs.last, getLast?_enumFrom, List.length_take_of_le hk]
    by_cases hk0 : k = 0
    · simp [hk0]
    · rw [if_neg hk0]
      exact Nat.sub_add_cancel (Nat.le_trans (Nat.pos_of_ne_zero hk0) (Nat.le_add_left _ _))
  have hend : r.2.2 = [] → k = (f.drop since).length := fun h => by
    have := congrArg List.length hs.rest
    rw [h, List.append_nil, length_enumFrom, length_enumFrom, List.length_take_of_le hk] at this
    exact this.symm
  -- `hs` is `Scanned` at `acc = []`: `[] ++ _` and `[].length` reduce away
  exact ⟨k, r.1, { le := hk, emitted := hs.out, eq := hpg.trans (Prod.ext rfl htok), stop := hs.stop.imp_left hend,
                   bound := hs.bound }⟩

theorem readPage_eq (f : Feed) (since limit : Nat) (lo : Bool) :
    readPage f since limit lo
      = Hub.Store.pageG (fun k => if !lo || isLatestAt f k.1 k.2 then some k.2 else none) (enumFrom 0 f) since limit := by
  rw [readPage, zipIdx_map_enum]

theorem readPage_tok (f : Feed) (since batch : Nat) (lo : Bool) (hs : since ≤ f.length) :
    since ≤ (readPage f since batch lo).2 ∧ (readPage f since batch lo).2 ≤ f.length ∧
      (0 < batch → (readPage f since batch lo).1 = [] → (readPage f since batch lo).2 = f.length) := by
  rw [readPage_eq]
  obtain ⟨k, page, hp⟩ := pageG_enum (fun k => if !lo || isLatestAt f k.1 k.2 then some k.2 else none) f since batch
  rw [hp.eq]
  have hk := hp.le
  have hstop := hp.stop
  rw [List.length_drop] at hk hstop
  refine ⟨Nat.le_add_right _ _, by show since + k ≤ _; omega, fun hb he => ?_⟩
  obtain rfl : page = [] := he
  show since + k = _
  rcases hstop with rfl | ⟨_, hl⟩
  · omega
  · exact absurd hl (Nat.ne_of_lt hb)

theorem filterMap_enumFrom_some : ∀ (l : Feed) (n : Nat), (enumFrom n l).filterMap (fun e => some e.2.2) = l
  | [], _ => rfl
  | v :: vs, n => by simp [enumFrom, filterMap_enumFrom_some vs (n + 1)]

theorem readPage_slice (f : Feed) (since batch : Nat) (hb : 0 < batch) :
    readPage f since batch false = ((f.drop since).take batch, since + ((f.drop since).take batch).length) := by
  rw [readPage_eq]
  obtain ⟨k, page, hp⟩ := pageG_enum (fun k => some k.2) f since batch
  obtain rfl : page = (f.drop since).take k := hp.emitted.trans (filterMap_enumFrom_some _ _)
  have hlen : ((f.drop since).take k).length = k := List.length_take_of_le hp.le
  -- the scan stopped at the end of the feed (with at most `batch` versions) or after exactly `batch` versions
  have : (f.drop since).take batch = (f.drop since).take k := by
    rcases hp.stop with rfl | ⟨_, h⟩
    · rw [List.take_length, List.take_of_length_le (hlen ▸ hp.bound hb)]
    · rw [← hlen.symm.trans h]
  rw [this, hlen]
  exact hp.eq

/-- the position a token stands for (`""` = 0): the `match rs.cur with` of `loopDS`. -/
def pos (t : Tok) : Nat := match t with | [some n] => n | _ => 0

/-- what the argument about runs needs of an invariant `I f g c` ("the sink feed `g` is up to date with the source
feed `f` as far as position `c`") for reads with `latestOnly = lo`. -/
structure PageInv (lo : Bool) (I : Feed → Feed → Nat → Prop) : Prop where
  mono : ∀ {f g c c'}, I f g c → c' ≤ c → I f g c'
  write : ∀ {f g c}, I f g c → c ≤ f.length → ∀ w, I (f ++ w) g c
  page : ∀ {f g c} b, 0 < b → c ≤ f.length → I f g c → I f (storeBatch g (readPage f c b lo).1) (readPage f c b lo).2

/-- during a run: the sink is up to date with the *cursor*, which is what the next page is read from. -/
structure Run (I : Feed → Feed → Nat → Prop) (f : Feed) (rs : RS) : Prop where
  tokLe : pos rs.tok ≤ pos rs.cur
  curLe : pos rs.cur ≤ f.length
  inv : I f rs.sink.feed (pos rs.cur)

/-- between runs: the sink is up to date with the *stored token*, which is where the next run starts. -/
structure TokSafe (I : Feed → Feed → Nat → Prop) (f : Feed) (s : St) : Prop where
  srcs : s.srcs = [f]
  tokLe : pos s.tok ≤ f.length
  inv : I f s.sink.feed (pos s.tok)

theorem process_nil (s : Sink) : s.process [] = s := by simp [Sink.process, storeBatch]

/-- the `processEntities` closure does nothing (cancelled, or the sink rejects the page), or the sink write alone (death
before the token is captured), or the sink write with the cursor, and for `persistNow` the token, moved to `tn`. `a`, `c`: the
new counters `accepted`, `calls`, which no invariant reads. -/
theorem procEnt_cases (flt : Faults) (p : Bool) (page : List Ver) (tn : Tok) (rs : RS) : ∃ a c,
    procEnt flt p page tn rs = ({ rs with accepted := a, calls := c }, .err) ∨
    procEnt flt p page tn rs = ({ rs with sink := rs.sink.process page, accepted := a, calls := c }, .died) ∨
    procEnt flt p page tn rs = ({ sink := rs.sink.process page, tok := if p then tn else rs.tok, cur := tn, accepted := a, calls := c },
      if page.isEmpty then .stop else .cont) := by
  unfold procEnt
  by_cases hc : cancelled flt rs.accepted = true
  · exact ⟨_, _, .inl (by rw [if_pos hc])⟩
  rw [if_neg hc]
  by_cases he : page.isEmpty = true
  · obtain rfl : page = [] := by simpa using he
    exact ⟨_, _, .inr (.inr (by rw [if_pos he, if_pos he, process_nil]))⟩
  rw [if_neg he]
  by_cases hf : flt.failAt = some rs.calls
  · exact ⟨_, _, .inl (by rw [if_pos hf])⟩
  rw [if_neg hf]
  by_cases hd : flt.dieAfter = some (rs.accepted + 1)
  · exact ⟨_, _, .inr (.inl (by rw [if_pos hd]))⟩
  · exact ⟨_, _, .inr (.inr (by rw [if_neg hd, if_neg he]))⟩

section
variable {lo : Bool} {I : Feed → Feed → Nat → Prop}

theorem procEnt_run (hI : PageInv lo I) {f : Feed} {rs : RS} (h : Run I f rs)
    (flt : Faults) (p : Bool) {b : Nat} (hb : 0 < b) :
    Run I f (procEnt flt p (readPage f (pos rs.cur) b lo).1 [some (readPage f (pos rs.cur) b lo).2] rs).1 := by
  have hpg := hI.page b hb h.curLe h.inv
  obtain ⟨h1, h2, -⟩ := readPage_tok f (pos rs.cur) b lo h.curLe
  generalize readPage f (pos rs.cur) b lo = pg at hpg h1 h2 ⊢
  obtain ⟨a, c, hr | hr | hr⟩ := procEnt_cases flt p pg.1 [some pg.2] rs <;> rw [hr]
  · exact ⟨h.tokLe, h.curLe, h.inv⟩
  · exact ⟨h.tokLe, h.curLe, hI.mono hpg h1⟩
  · refine ⟨?_, h2, hpg⟩
    cases p
    · exact Nat.le_trans h.tokLe h1
    · exact Nat.le_refl _

theorem loopDS_succ (src : Feed) (b : Nat) (lo : Bool) (flt : Faults) (p : Bool) (fuel : Nat) (rs : RS) :
    loopDS src b lo flt p (fuel + 1) rs =
      (match procEnt flt p (readPage src (pos rs.cur) b lo).1 [some (readPage src (pos rs.cur) b lo).2] rs with
       | (rs', .cont) => loopDS src b lo flt p fuel rs'
       | r => r) := by rw [loopDS]; rfl

/-- A predicate that `procEnt` keeps on the page read at the cursor holds when the loop leaves; if it leaves with `.stop` the
cursor is the end of the feed and, for a run that persists as it goes, so is the token. -/
theorem loopDS_keeps {P : RS → Prop} {f : Feed} {b : Nat} (hb : 0 < b) {lo : Bool} {flt : Faults} {p : Bool}
    (hcur : ∀ rs, P rs → pos rs.cur ≤ f.length)
    (hP : ∀ rs, P rs → P (procEnt flt p (readPage f (pos rs.cur) b lo).1 [some (readPage f (pos rs.cur) b lo).2] rs).1)
    {fuel : Nat} {rs : RS} {r : RS × Out} (h : P rs) (hl : loopDS f b lo flt p fuel rs = r) :
    P r.1 ∧ (r.2 = .stop → pos r.1.cur = f.length ∧ (p = true → r.1.tok = r.1.cur)) := by
  induction fuel generalizing rs with
  | zero =>
    -- out of fuel the loop answers `.err`, never `.stop`: what is claimed of `.stop` needs no bound on the fuel
    subst hl
    exact ⟨h, fun hs => by cases hs⟩
  | succ fuel ih =>
    have hp := hP rs h
    obtain ⟨-, -, hnil⟩ := readPage_tok f (pos rs.cur) b lo (hcur rs h)
    rw [loopDS_succ] at hl
    generalize readPage f (pos rs.cur) b lo = pg at hp hnil hl
    obtain ⟨a, c, hr | hr | hr⟩ := procEnt_cases flt p pg.1 [some pg.2] rs <;> rw [hr] at hp hl
    · subst hl; exact ⟨hp, fun hs => by cases hs⟩
    · subst hl; exact ⟨hp, fun hs => by cases hs⟩
    · by_cases he : pg.1.isEmpty = true
      · -- an empty page: the read reached the end of the feed (`readPage_tok`)
        rw [if_pos he] at hp hl; subst hl
        exact ⟨hp, fun _ => ⟨hnil hb (by simpa using he), fun hp' => by simp [hp']⟩⟩
      · rw [if_neg he] at hp hl
        exact ih hp hl

theorem Run.tokSafe (hI : PageInv lo I) {f : Feed} {rs : RS} (h : Run I f rs) :
    TokSafe I f { srcs := [f], sink := rs.sink, tok := rs.tok } :=
  ⟨rfl, Nat.le_trans h.tokLe h.curLe, hI.mono h.inv h.tokLe⟩

theorem readAll_single (b : Nat) (lo : Bool) (f : Feed) (flt : Faults) (p : Bool) (rs : RS) :
    readAll ⟨false, lo, b⟩ [f] flt p rs = loopDS f b lo flt p (fuelOf [f]) rs := by
  rw [readAll, if_neg Bool.false_ne_true]; rfl

theorem runJob_incr (hI : PageInv lo I) {b : Nat} (hb : 0 < b) (resetAtStart : Bool)
    (flt : Faults) {s : St} {f : Feed} (h : TokSafe I f s) :
    TokSafe I f (runJob resetAtStart ⟨false, lo, b⟩ false flt s).1
    ∧ ((runJob resetAtStart ⟨false, lo, b⟩ false flt s).2 = .ok →
        pos (runJob resetAtStart ⟨false, lo, b⟩ false flt s).1.tok = f.length) := by
  obtain ⟨srcs, sink, tok⟩ := s
  obtain rfl : srcs = [f] := h.srcs
  unfold runJob
  simp only [Bool.not_false, if_true, readAll_single]
  cases hl : loopDS f b lo flt true (fuelOf [f]) { sink := sink, tok := tok, cur := tok } with
  | mk rs out =>
    obtain ⟨hr, hstop⟩ := loopDS_keeps (P := Run I f) hb (fun _ h => h.curLe) (fun _ h => procEnt_run hI h flt true hb)
      ⟨Nat.le_refl _, h.tokLe, h.inv⟩ hl
    refine ⟨hr.tokSafe hI, fun hok => ?_⟩
    cases out with
    | stop =>
      obtain ⟨h1, h2⟩ := hstop rfl
      show pos rs.tok = f.length
      rw [h2 rfl]; exact h1
    | _ => cases hok

theorem storeBatch_append (b : List Ver) (f : Feed) : ∃ w, storeBatch f b = f ++ w :=
  List.foldlRecOn (motive := fun g => ∃ w, g = f ++ w) b store1 ⟨[], (List.append_nil f).symm⟩ fun g ⟨w, hw⟩ v _ => by
    rw [store1]; split
    · exact ⟨w, hw⟩
    · exact ⟨w ++ [v], by rw [hw, List.append_assoc]⟩

theorem writeSrc_tokSafe (hI : PageInv lo I) {s : St} {f : Feed}
    (h : TokSafe I f s) (w : List Ver) : ∃ f', TokSafe I f' (writeSrc s 0 w) := by
  obtain ⟨w', hw⟩ := storeBatch_append w f
  refine ⟨f ++ w', by simp [writeSrc, h.srcs, hw], ?_, hI.write h.inv h.tokLe w'⟩
  show pos s.tok ≤ (f ++ w').length
  rw [List.length_append]; exact Nat.le_trans h.tokLe (Nat.le_add_right _ _)

end

theorem invPage : PageInv false Inv where
  mono := inv_mono
  write := inv_write
  page := fun {f _ c} b hb _ h => by
    rw [readPage_slice f c b hb]
    exact inv_deliver h _ (getElem?_slice f c b)

/-- `Run Inv`, and for a full sync in progress (`fs`) every id delivered since the start has been marked seen. -/
structure RunInv (fs : Bool) (f : Feed) (rs : RS) : Prop where
  tokLe : pos rs.tok ≤ pos rs.cur
  curLe : pos rs.cur ≤ f.length
  inv : Inv f rs.sink.feed (pos rs.cur)
  started : fs = true → rs.sink.started = true
  seen : fs = true → ∀ p v, p < pos rs.cur → f[p]? = some v → v.id ∈ rs.sink.seen

theorem RunInv.run {fs : Bool} {f : Feed} {rs : RS} (h : RunInv fs f rs) : Run Inv f rs := ⟨h.tokLe, h.curLe, h.inv⟩

theorem Run.runInv {fs : Bool} {f : Feed} {rs : RS} (h : Run Inv f rs) (hstarted : fs = true → rs.sink.started = true)
    (hseen : fs = true → ∀ p v, p < pos rs.cur → f[p]? = some v → v.id ∈ rs.sink.seen) : RunInv fs f rs :=
  { tokLe := h.tokLe, curLe := h.curLe, inv := h.inv, started := hstarted, seen := hseen }

theorem procEnt_runInv {fs : Bool} {f : Feed} {rs : RS} (h : RunInv fs f rs) (flt : Faults) (p : Bool) {b : Nat} (hb : 0 < b) :
    RunInv fs f (procEnt flt p (readPage f (pos rs.cur) b false).1 [some (readPage f (pos rs.cur) b false).2] rs).1 := by
  have hr := procEnt_run invPage h.run flt p hb
  obtain ⟨hle, -, -⟩ := readPage_tok f (pos rs.cur) b false h.curLe
  -- once the sink has the page, every id up to the end of the page is marked seen
  have hseen : fs = true → ∀ q v, q < (readPage f (pos rs.cur) b false).2 → f[q]? = some v →
      v.id ∈ (rs.sink.process (readPage f (pos rs.cur) b false).1).seen := by
    rw [readPage_slice f (pos rs.cur) b hb]
    intro hfs q v hq hv
    simp only [Sink.process, h.started hfs, if_true]
    rcases Nat.lt_or_ge q (pos rs.cur) with hlt | hge
    · exact List.mem_append_left _ (h.seen hfs q v hlt hv)
    · exact List.mem_append_right _ (List.mem_map.2 ⟨v, List.mem_of_getElem? ((getElem?_slice f _ b q hge hq).trans hv), rfl⟩)
  generalize readPage f (pos rs.cur) b false = r at hr hle hseen ⊢
  obtain ⟨a, c, hc | hc | hc⟩ := procEnt_cases flt p r.1 [some r.2] rs <;> rw [hc] at hr ⊢
  · exact hr.runInv h.started h.seen
  · exact hr.runInv h.started fun hfs q v hq => hseen hfs q v (Nat.lt_of_lt_of_le hq hle)
  · exact hr.runInv h.started hseen

def cfg1 (b : Nat) : Cfg := { union := false, latestOnly := false, batch := b }

/-- **token safety** of a job state over source feed `f`: for every id changed below the stored token the sink holds a
source version at least as new as the last of those changes. -/
structure Safe (f : Feed) (s : St) : Prop where
  srcs : s.srcs = [f]
  tokLe : pos s.tok ≤ f.length
  inv : Inv f s.sink.feed (pos s.tok)

theorem safe_iff {f : Feed} {s : St} : Safe f s ↔ TokSafe Inv f s :=
  ⟨fun h => ⟨h.srcs, h.tokLe, h.inv⟩, fun h => ⟨h.srcs, h.tokLe, h.inv⟩⟩

/-- `CompleteFullSync` after a full sync that read the whole feed deletes nothing the source knows: every source id
was written (seen) since the start. -/
theorem complete_inv {f : Feed} {rs : RS} (h : RunInv true f rs) (hend : pos rs.cur = f.length) (sk : Sink)
    (hc : rs.sink.complete = some sk) : Inv f sk.feed f.length := by
  unfold Sink.complete at hc
  simp only [h.started rfl, Bool.not_true, Bool.false_eq_true, if_false, Option.some.injEq] at hc
  subst hc
  refine inv_congr (hend ▸ h.inv) fun id ⟨p, v, hv, hid⟩ => ?_
  have hseen : id ∈ rs.sink.seen := hid ▸ h.seen rfl p v (hend ▸ (List.getElem?_eq_some_iff.1 hv).1) hv
  rw [latestV_storeBatch, latestV_eq_none.2, Option.none_or]
  intro w hw heq
  obtain ⟨x, hx, rfl⟩ := List.mem_map.1 hw
  have := (List.mem_filter.1 hx).2
  simp only [Bool.and_eq_true, Bool.not_eq_true', List.contains_eq_mem, decide_eq_false_iff_not] at this
  exact this.2 ((show x.id = id from heq) ▸ hseen)

theorem readAll_cfg1 (b : Nat) (f : Feed) (flt : Faults) (p : Bool) (rs : RS) :
    readAll (cfg1 b) [f] flt p rs = loopDS f b false flt p (fuelOf [f]) rs := readAll_single b false f flt p rs

theorem runJob_safe (b : Nat) (hb : 0 < b) (full : Bool) (flt : Faults) (s : St) (f : Feed) (h : Safe f s) :
    Safe f (runJob true (cfg1 b) full flt s).1
    ∧ ((runJob true (cfg1 b) full flt s).2 = .ok → pos (runJob true (cfg1 b) full flt s).1.tok = f.length) := by
  cases full with
  | false => exact (runJob_incr invPage hb true flt (safe_iff.1 h)).imp_left safe_iff.2
  | true =>
    obtain ⟨srcs, sink, tok⟩ := s
    obtain rfl : srcs = [f] := h.srcs
    unfold runJob
    simp only [Bool.not_true, Bool.false_eq_true, if_false, if_true, readAll_cfg1]
    cases hl : loopDS f b false flt false (fuelOf [f]) { sink := sink.start, tok := [], cur := [] } with
    | mk rs out =>
      obtain ⟨hr, hstop⟩ := loopDS_keeps (P := RunInv true f) hb (fun _ h => h.curLe)
        (fun _ h => procEnt_runInv h flt false hb)
        { tokLe := Nat.le_refl _, curLe := Nat.zero_le _, inv := inv_zero f _, started := fun _ => rfl,
          seen := fun _ p v hp _ => by cases hp } hl
      have hbase := safe_iff.2 (hr.run.tokSafe invPage)
      cases out with
      | stop =>
        obtain ⟨h1, _⟩ := hstop rfl
        cases hcmp : rs.sink.complete with
        | none => exact ⟨hbase, fun hh => by cases hh⟩
        | some sk =>
          exact ⟨⟨rfl, Nat.le_of_eq h1, by rw [h1]; exact complete_inv hr h1 sk hcmp⟩, fun _ => h1⟩
      | _ => exact ⟨hbase, fun hh => by cases hh⟩

inductive Ev where
  | write (w : List Ver)
  | run (full : Bool) (flt : Faults)

/-- runs are `runJob true` (a full sync resets the stored token when it starts) over source `0`, the only one. -/
def stepEv (b : Nat) (s : St) : Ev → St
  | .write w => writeSrc s 0 w
  | .run full flt => (runJob true (cfg1 b) full flt s).1

theorem history_safe (b : Nat) (hb : 0 < b) : ∀ (evs : List Ev) (s : St) (f : Feed), Safe f s →
    ∃ f', Safe f' (evs.foldl (stepEv b) s) := by
  intro evs s f h
  refine List.foldlRecOn evs (stepEv b) (motive := fun s => ∃ f', Safe f' s) ⟨f, h⟩ ?_
  rintro s ⟨f, h⟩ (w | ⟨full, flt⟩) _
  · exact (writeSrc_tokSafe invPage (safe_iff.1 h) w).imp fun _ => safe_iff.2
  · exact ⟨f, (runJob_safe b hb full flt s f h).1⟩

end Hub.PipeInv
