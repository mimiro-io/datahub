import Hub.Proofs.SortBy
/-!
# Entity lookup: the per-dataset partials (`GetEntityAtPointInTimeWithInternalID`)

The scan walks the versions of one entity in key order (dataset, time, batch position) and keeps the last
element of every run of equal dataset. Over the sorted list of visible versions this is, per dataset, the
newest version recorded at or before the instant; deleted ones are dropped afterwards.
-/
namespace Hub.Lookup
open Hub.Store

/-! ## `VKey.lt`: three lexicographic steps (`Hub.SortBy.lex_trans`, `lex_total`) ending in `<` on the batch position -/
open Hub.SortBy (lex_trans lex_total)

theorem lt_iff (a b : VKey) : a.lt b = true ↔
    a.rid < b.rid ∨ (a.rid = b.rid ∧ (a.ds < b.ds ∨ (a.ds = b.ds ∧ (a.t < b.t ∨ (a.t = b.t ∧ a.seq < b.seq))))) := by
  simp [VKey.lt]

theorem lt_trans (a b c : VKey) (h1 : a.lt b = true) (h2 : b.lt c = true) : a.lt c = true := by
  rw [lt_iff] at *
  exact lex_trans (lex_trans (lex_trans Nat.lt_trans)) h1 h2

theorem lt_irrefl (a : VKey) : a.lt a = false := by simp [VKey.lt]

theorem lt_asymm (a b : VKey) (h : a.lt b = true) : b.lt a = false :=
  Hub.SortBy.asymm_of_trans lt_trans lt_irrefl a b h

/-- keys that `VKey.lt` does not order either way are equal. -/
theorem lt_total (a b : VKey) (h1 : a.lt b = false) (h2 : b.lt a = false) : a = b := by
  rw [Bool.eq_false_iff, ne_eq, lt_iff] at h1 h2
  -- one `lex_total` per field
  obtain ⟨hrid, hds, ht, hseq⟩ : a.rid = b.rid ∧ a.ds = b.ds ∧ a.t = b.t ∧ a.seq = b.seq :=
    lex_total (lex_total (lex_total fun h h' => Nat.le_antisymm (Nat.not_lt.1 h') (Nat.not_lt.1 h))) h1 h2
  obtain ⟨ar, ad, at_, as⟩ := a
  obtain ⟨br, bd, bt, bs⟩ := b
  simp only at hrid hds ht hseq
  rw [hrid, hds, ht, hseq]

theorem lastPerDs_sublist (L : List (VKey × Ent)) : (lastPerDs L).Sublist L := by
  fun_induction lastPerDs L with
  | case1 => exact .slnil
  | case2 x => exact .refl _
  | case3 x y rest hd ih => exact ih.cons x
  | case4 x y rest hd ih => exact ih.cons_cons x

/-- the versions of one entity in key order; all keys have one rid, so the dataset ids do not decrease: the runs per
dataset that `lastPerDs` relies on. -/
def KeySorted (L : List (VKey × Ent)) : Prop := L.Pairwise fun a b => a.1.lt b.1 = true ∧ a.1.ds ≤ b.1.ds

/-- no version of `p`'s dataset in `L` has a greater key. -/
def Newest (L : List (VKey × Ent)) (p : VKey × Ent) : Prop := p ∈ L ∧ ∀ q ∈ L, q.1.ds = p.1.ds → p.1.lt q.1 = false

theorem newest_cons {x p : VKey × Ent} {L : List (VKey × Ent)} (h : KeySorted (x :: L)) :
    Newest (x :: L) p ↔ (p = x ∧ ∀ q ∈ L, q.1.ds ≠ x.1.ds) ∨ Newest L p := by
  have hx := (List.pairwise_cons.1 h).1
  constructor
  · rintro ⟨hm, hn⟩
    rcases List.mem_cons.1 hm with rfl | hm
    · exact .inl ⟨rfl, fun q hq hds => Bool.eq_false_iff.1 (hn q (.tail _ hq) hds) (hx q hq).1⟩
    · exact .inr ⟨hm, fun q hq => hn q (.tail _ hq)⟩
  · rintro (⟨rfl, hne⟩ | ⟨hm, hn⟩)
    · refine ⟨.head _, fun q hq hds => ?_⟩
      rcases List.mem_cons.1 hq with rfl | hq
      · exact lt_irrefl _
      · exact absurd hds (hne q hq)
    · refine ⟨.tail _ hm, fun q hq hds => ?_⟩
      rcases List.mem_cons.1 hq with rfl | hq
      · exact lt_asymm _ _ (hx p hm).1
      · exact hn q hq hds

theorem mem_lastPerDs {p : VKey × Ent} {L : List (VKey × Ent)} (h : KeySorted L) : p ∈ lastPerDs L ↔ Newest L p := by
  fun_induction lastPerDs L with
  | case1 => simp [Newest]
  | case2 x => rw [newest_cons h]; simp [Newest]
  | case3 x y rest hd ih =>
    -- `x` is not the newest of its dataset: `y` is of the same one
    rw [newest_cons h, ih (List.pairwise_cons.1 h).2]
    exact ⟨.inr, fun h' => h'.resolve_left fun h'' => h''.2 y (.head _) (eq_of_beq hd).symm⟩
  | case4 x y rest hd ih =>
    -- the datasets do not decrease: that of `x` is left for good at `y`
    obtain ⟨hx, hyr⟩ := List.pairwise_cons.1 h
    have hne : ∀ q ∈ y :: rest, q.1.ds ≠ x.1.ds := by
      intro q hq e
      have hxy : x.1.ds ≤ y.1.ds := (hx y (.head _)).2
      have hyq : y.1.ds ≤ q.1.ds := by
        rcases List.mem_cons.1 hq with rfl | hq
        · exact Nat.le_refl _
        · exact ((List.pairwise_cons.1 hyr).1 q hq).2
      exact hd (beq_iff_eq.2 (Nat.le_antisymm hxy (e ▸ hyq)))
    rw [newest_cons h, List.mem_cons, ih hyr]
    exact or_congr_left ⟨fun e => ⟨e, hne⟩, And.left⟩

theorem mem_visible {db : DB} {rid at_ : Nat} {scope : List Nat} {p : VKey × Ent} :
    p ∈ visibleVersions db rid at_ scope ↔
      p ∈ db.versions ∧ p.1.rid = rid ∧ p.1.t ≤ at_ ∧ p.1.ds ∉ db.deletedDs ∧ (scope = [] ∨ p.1.ds ∈ scope) := by
  unfold visibleVersions
  rw [Hub.SortBy.mem_sortBy, List.mem_filter]
  simp only [Bool.and_eq_true, beq_iff_eq, decide_eq_true_eq, Bool.not_eq_true', Bool.or_eq_true, List.isEmpty_iff,
    List.contains_eq_mem, decide_eq_false_iff_not, and_assoc]

theorem visible_sorted (db : DB) (hk : (db.versions.map (·.1)).Nodup) (rid at_ : Nat) (scope : List Nat) :
    KeySorted (visibleVersions db rid at_ scope) := by
  have hs : (visibleVersions db rid at_ scope).Pairwise fun a b => a.1.lt b.1 :=
    Hub.SortBy.sortBy_strict (lt := fun (a b : VKey × Ent) => a.1.lt b.1)
      (fun a b c h1 h2 => lt_trans _ _ _ h1 h2) (fun a => lt_irrefl _)
      (((List.pairwise_map.1 hk).filter _).imp fun {a b} hne => by
        cases h1 : a.1.lt b.1
        · cases h2 : b.1.lt a.1
          · exact absurd (lt_total _ _ h1 h2) hne
          · exact .inr rfl
        · exact .inl rfl)
  refine hs.imp_of_mem fun {a b} ha hb hab => ⟨hab, ?_⟩
  -- equal rids: the comparison is decided by the dataset or behind it
  have hr : a.1.rid = b.1.rid := (mem_visible.1 ha).2.1.trans (mem_visible.1 hb).2.1.symm
  rcases (lt_iff _ _).1 hab with h | ⟨-, h | ⟨h, -⟩⟩
  · exact absurd h (hr ▸ Nat.lt_irrefl _)
  · exact Nat.le_of_lt h
  · exact Nat.le_of_eq h

end Hub.Lookup
