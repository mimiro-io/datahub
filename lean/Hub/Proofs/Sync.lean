import Hub.Model.Sync
import Hub.Proofs.LastBy
/-! The abstract synchronisation model `Hub.Sync`: the invariants `Inv` and `Good`, their preservation by every `fixed`
step (all but `startFull false`), and convergence at the end of the feed. -/
namespace Hub.Sync

theorem getA_setA (k v k2 : Nat) : ∀ s, getA k2 (setA k v s) = if k = k2 then some v else getA k2 s
  | [] => by simp [setA, getA]
  | (k', v') :: r => by
    by_cases h : k' = k
    · subst h; by_cases h2 : k' = k2 <;> simp [setA, getA, h2]
    · by_cases h2 : k' = k2
      · subst h2; simp [setA, getA, h, Ne.symm h]
      · simp [setA, getA, h, h2, getA_setA k v k2 r]

theorem latest_eq_find? (l : List Ent) (id : Nat) : latest l id = (l.reverse.find? (·.1 == id)).map (·.2) := by
  rw [latest, ← List.foldr_reverse]
  induction l.reverse with
  | nil => rfl
  | cons e r ih =>
    rw [List.foldr_cons, ih, List.find?_cons]
    cases hb : e.1 == id
    · rw [if_neg (by simpa using hb)]
    · rw [if_pos (by simpa using hb)]; rfl

theorem latest_of_last {l : List Ent} {id q v : Nat} (hq : l[q]? = some (id, v))
    (hmax : ∀ (p : Nat) (v' : Nat), l[p]? = some (id, v') → p ≤ q) : latest l id = some v := by
  have hno : (l.drop (q + 1)).any (·.1 == id) = false := LastBy.any_drop_eq_false.2 fun p x hlt hp hx =>
    Nat.not_le_of_lt hlt (hmax p x.2 (by rw [hp, ← hx]))
  rw [latest_eq_find?, LastBy.find?_reverse_eq_some.2 ⟨q, hq, rfl, hno⟩]; rfl

theorem latest_of_absent {l : List Ent} {id : Nat} (h : ∀ (p : Nat) (v' : Nat), l[p]? ≠ some (id, v')) : latest l id = none := by
  rw [latest_eq_find?, LastBy.find?_reverse_eq_none.2 fun x hm hx => ?_]; rfl
  obtain ⟨p, hp⟩ := List.getElem?_of_mem hm
  exact h p x.2 (by rw [hp, ← hx])

/-- the sink relative to a feed position `c`: every version the sink holds is a real change of that id
at a position not before any change of the id below `c`; every id changed below `c` is in the sink. -/
structure Inv (src : List Ent) (sink : List (Nat × Nat)) (c : Nat) : Prop where
  real : ∀ id v, getA id sink = some v →
    ∃ q : Nat, src[q]? = some (id, v) ∧ ∀ (p : Nat) (v' : Nat), p < c → src[p]? = some (id, v') → p ≤ q
  present : ∀ id (p : Nat) (v' : Nat), p < c → src[p]? = some (id, v') → getA id sink ≠ none

theorem inv_mono {src sink c c'} (h : Inv src sink c) (hc : c' ≤ c) : Inv src sink c' where
  real := fun id v hv =>
    let ⟨q, hq, hmax⟩ := h.real id v hv
    ⟨q, hq, fun p v' hp => hmax p v' (Nat.lt_of_lt_of_le hp hc)⟩
  present := fun id p v' hp => h.present id p v' (Nat.lt_of_lt_of_le hp hc)

theorem inv_write {src sink c} (h : Inv src sink c) (hc : c ≤ src.length) (e : Ent) : Inv (src ++ [e]) sink c where
  real := by
    intro id v hv
    obtain ⟨q, hq, hmax⟩ := h.real id v hv
    refine ⟨q, LastBy.getElem?_append_of_some hq [e], fun p v' hp hpv => ?_⟩
    rw [List.getElem?_append_left (Nat.lt_of_lt_of_le hp hc)] at hpv
    exact hmax p v' hp hpv
  present := by
    intro id p v' hp hpv
    rw [List.getElem?_append_left (Nat.lt_of_lt_of_le hp hc)] at hpv
    exact h.present id p v' hp hpv

theorem inv_deliver_one {src sink c} (h : Inv src sink c) (e : Ent) (he : src[c]? = some e) :
    Inv src (setA e.1 e.2 sink) (c + 1) := by
  -- a change of another id below `c + 1` is a change below `c`
  have hother : ∀ {id p v'}, e.1 ≠ id → p < c + 1 → src[p]? = some (id, v') → p < c := by
    intro id p v' hid hp hpv
    refine Nat.lt_of_le_of_ne (Nat.le_of_lt_succ hp) fun hpc => ?_
    subst hpc; rw [he] at hpv; cases hpv; exact hid rfl
  constructor
  · intro id v hv
    rw [getA_setA] at hv
    split at hv
    · cases hv; subst id
      exact ⟨c, he, fun p v' hp _ => Nat.le_of_lt_succ hp⟩
    · rename_i hid
      obtain ⟨q, hq, hmax⟩ := h.real id v hv
      exact ⟨q, hq, fun p v' hp hpv => hmax p v' (hother hid hp hpv) hpv⟩
  · intro id p v' hp hpv
    rw [getA_setA]
    split
    · simp
    · rename_i hid
      exact h.present id p v' (hother hid hp hpv) hpv

theorem inv_deliver {src : List Ent} : ∀ (page : List Ent) (sink : List (Nat × Nat)) (c : Nat), Inv src sink c →
    (∀ i, i < page.length → src[c + i]? = page[i]?) → Inv src (applyAll page sink) (c + page.length)
  | [], sink, c, h, _ => h
  | e :: page, sink, c, h, hp => by
    have h1 := inv_deliver page _ (c + 1) (inv_deliver_one h e (hp 0 (Nat.zero_lt_succ _))) fun i hi => by
      rw [Nat.add_right_comm]; exact hp (i + 1) (Nat.succ_lt_succ hi)
    rwa [Nat.add_right_comm, Nat.add_assoc] at h1

structure Good (s : St) : Prop where
  inv : Inv s.src s.sink s.cur
  tokLe : s.tok ≤ s.cur
  curLe : s.cur ≤ s.src.length

theorem good_init : Good {} where
  inv := ⟨by intro id v h; simp [getA] at h, by intro id p v' hp; exact absurd hp (Nat.not_lt_zero _)⟩
  tokLe := Nat.le_refl _
  curLe := Nat.le_refl _

/-- every step but a full-sync start that leaves the persisted token alone (`startFull false`). -/
def Step.fixed : Step → Bool
  | .startFull r => r
  | _ => true

theorem good_step (s : St) (st : Step) (h : Good s) (hf : st.fixed = true) : Good (step s st) := by
  cases st with
  | write e =>
    refine ⟨inv_write h.inv h.curLe e, h.tokLe, ?_⟩
    show s.cur ≤ (s.src ++ [e]).length
    rw [List.length_append]
    exact Nat.le_trans h.curLe (Nat.le_add_right _ _)
  | deliver b =>
    -- the page is the window `[cur, cur + b)` of the feed, cut off at its end
    refine ⟨inv_deliver _ s.sink s.cur h.inv fun i hi => ?_, Nat.le_trans h.tokLe (Nat.le_add_right _ _), ?_⟩
    · show s.src[s.cur + i]? = ((s.src.drop s.cur).take b)[i]?
      rw [List.length_take] at hi
      rw [List.getElem?_take_of_lt (Nat.lt_min.1 hi).1, List.getElem?_drop]
    · show s.cur + ((s.src.drop s.cur).take b).length ≤ s.src.length
      rw [List.length_take, List.length_drop]
      have := h.curLe
      omega
  | persist => exact ⟨h.inv, Nat.le_refl _, h.curLe⟩
  | abort => exact ⟨inv_mono h.inv h.tokLe, Nat.le_refl _, Nat.le_trans h.tokLe h.curLe⟩
  | startFull r =>
    obtain rfl : r = true := hf
    exact ⟨inv_mono h.inv (Nat.zero_le _), Nat.le_refl _, Nat.zero_le _⟩

theorem good_run (l : List Step) (s : St) (h : Good s) (hf : ∀ st ∈ l, st.fixed = true) : Good (run s l) :=
  List.foldlRecOn l step h fun s hs st hst => good_step s st hs (hf st hst)

theorem converged_of_inv {src sink} (h : Inv src sink src.length) (id : Nat) : getA id sink = latest src id := by
  have hlt : ∀ {p : Nat} {x : Ent}, src[p]? = some x → p < src.length := fun hp => (List.getElem?_eq_some_iff.1 hp).1
  cases hs : getA id sink with
  | some v =>
    obtain ⟨q, hq, hmax⟩ := h.real id v hs
    exact (latest_of_last hq fun p v' hp => hmax p v' (hlt hp) hp).symm
  | none => exact (latest_of_absent fun p v' hp => h.present id p v' (hlt hp) hp hs).symm

end Hub.Sync
