import Hub.Model.Store
/-! A write committed at time `t` appends version keys of time `t` and touches reference keys of time `t` only (`Adds`). -/

namespace Hub.Store

theorem countNew_eq (db : DB) (ds : Nat) (p : Option Ent) :
    countNew db ds p = { db with items := if p.isNone then setAssoc ds (db.itemsOf ds + 1) db.items else db.items } := by
  cases p <;> rfl

variable {snap : DB} {ds t : Nat} {nw : List Nat} {db : DB} {loc : List (Nat × Ent)} {i : Nat} {e : Ent}

/-- `countNew` runs before the test, but counts nothing here: the element has a predecessor. -/
theorem writeOne_skip (h : prevOf snap ds loc e.rid = some e) : writeOne snap ds t nw (db, loc) (i, e) = (db, loc) := by
  simp [writeOne, h, countNew]

theorem writeOne_append (h : prevOf snap ds loc e.rid ≠ some e) :
    writeOne snap ds t nw (db, loc) (i, e) =
      (appendVersion (countNew db ds (prevOf snap ds loc e.rid)) ds t i e (prevOf snap ds loc e.rid)
        (loc.lookup e.rid).isSome (nw.contains e.rid), (e.rid, e) :: loc) := if_neg h

end Hub.Store

namespace Hub.Frame
open Hub.Store

/-- `P` holds of every version key appended. `K` selects the times whose reference keys are left alone (not those
touched): a write at time `t` has this for every `K` with `K t = false`. -/
structure Adds (P : VKey → Prop) (K : Nat → Bool) (db db' : DB) : Prop where
  refs : db'.refs.filter (fun r => K r.t) = db.refs.filter (fun r => K r.t)
  versions : ∃ new, db'.versions = db.versions ++ new ∧ ∀ v ∈ new, P v.1
  deletedDs : db'.deletedDs = db.deletedDs

namespace Adds
variable {P P' : VKey → Prop} {K : Nat → Bool} {db db' db'' : DB}

theorem refl (db : DB) : Adds P K db db := ⟨rfl, ⟨[], by simp, by simp⟩, rfl⟩

theorem trans (h : Adds P K db db') (h' : Adds P K db' db'') : Adds P K db db'' := by
  obtain ⟨n, hn, hP⟩ := h.versions
  obtain ⟨n', hn', hP'⟩ := h'.versions
  refine ⟨h'.refs.trans h.refs, ⟨n ++ n', by rw [hn', hn, List.append_assoc], ?_⟩, h'.deletedDs.trans h.deletedDs⟩
  intro v hv
  exact (List.mem_append.1 hv).elim (hP v) (hP' v)

theorem mono (h : Adds P K db db') (hP : ∀ k, P k → P' k) : Adds P' K db db' :=
  ⟨h.refs, h.versions.imp fun _ hn => ⟨hn.1, fun v hv => hP _ (hn.2 v hv)⟩, h.deletedDs⟩

end Adds

variable {K : Nat → Bool} {t : Nat}

theorem refSet_frame (rs : List RefKey) {k : RefKey} (hk : K k.t = false) :
    (refSet rs k).filter (fun r => K r.t) = rs.filter (fun r => K r.t) := by
  unfold refSet
  split
  · rfl
  · simp [List.filter_append, hk]

theorem refDel_frame (rs : List RefKey) {k : RefKey} (hk : K k.t = false) :
    (refDel rs k).filter (fun r => K r.t) = rs.filter (fun r => K r.t) := by
  unfold refDel
  rw [List.filter_filter]
  apply List.filter_congr
  intro r _
  by_cases hr : r = k <;> simp [hr, hk]

theorem foldl_frame {α : Type} (f : List RefKey → α → List RefKey)
    (hf : ∀ rs a, (f rs a).filter (fun r => K r.t) = rs.filter (fun r => K r.t)) (l : List α) (rs : List RefKey) :
    (l.foldl f rs).filter (fun r => K r.t) = rs.filter (fun r => K r.t) :=
  List.foldlRecOn (motive := fun rs' => rs'.filter (fun r => K r.t) = rs.filter (fun r => K r.t)) l f rfl
    fun rs' h a _ => (hf rs' a).trans h

theorem writeRefs_frame (hK : K t = false) (rs : List RefKey) (ds : Nat) (prev : Option Ent) (inBatch isnew : Bool) (e : Ent) :
    (writeRefs rs ds t prev inBatch isnew e).filter (fun r => K r.t) = rs.filter (fun r => K r.t) := by
  have hset : ∀ (del : Bool) (rid : Nat) (l : List (Nat × Nat)) (rs : List RefKey),
      (l.foldl (fun rs r => refSet rs ⟨rid, t, r.1, r.2, del, ds⟩) rs).filter (fun r => K r.t) = rs.filter (fun r => K r.t) :=
    fun _ _ => foldl_frame _ fun rs r => refSet_frame rs hK
  fun_cases writeRefs rs ds t prev inBatch isnew e
  · exact hset ..
  · rfl
  · exact hset ..
  · exact hset ..
  · rw [hset]
    refine foldl_frame _ (fun rs r => ?_) _ _
    split
    · rw [refDel_frame _ hK, refSet_frame _ hK]
    · exact refSet_frame _ hK

theorem writeOne_adds (hK : K t = false) (snap : DB) (ds : Nat) (nw : List Nat) (st : DB × List (Nat × Ent)) (x : Nat × Ent) :
    Adds (fun k => k.t = t ∧ k.ds = ds) K st.1 (writeOne snap ds t nw st x).1 := by
  obtain ⟨db, loc⟩ := st
  obtain ⟨i, e⟩ := x
  by_cases h : prevOf snap ds loc e.rid = some e
  · rw [writeOne_skip h]; exact .refl db
  · rw [writeOne_append h, countNew_eq]
    exact ⟨writeRefs_frame hK .., ⟨[(⟨e.rid, ds, t, i⟩, e)], rfl, by simp⟩, rfl⟩

theorem writeFrom_adds (hK : K t = false) (snap : DB) (ds : Nat) (nw : List Nat) (xs : List Ent) (i : Nat)
    (st : DB × List (Nat × Ent)) : Adds (fun k => k.t = t ∧ k.ds = ds) K st.1 (writeFrom snap ds t nw i xs st).1 := by
  fun_induction writeFrom snap ds t nw i xs st with
  | case1 => exact .refl _
  | case2 i e xs st ih => exact (writeOne_adds hK snap ds nw st (i, e)).trans ih

theorem storeBatch_adds (hK : K t = false) (db : DB) (ds : Nat) (b : List Ent) (nw : List Nat) :
    Adds (fun k => k.t = t ∧ k.ds = ds) K db (storeBatch db ds t b nw) :=
  writeFrom_adds hK db ds nw b 0 (db, [])

theorem execTxn_adds (hK : K t = false) (db : DB) (parts : List (Nat × List Ent)) (nw : List Nat) :
    Adds (fun k => k.t = t ∧ ∃ p ∈ parts, k.ds = p.1) K db (execTxn db t parts nw) := by
  -- fold invariant: `db` plus keys of time `t` in datasets of `parts`
  refine List.foldlRecOn parts _ (motive := Adds (fun k => k.t = t ∧ ∃ p ∈ parts, k.ds = p.1) K db) (.refl db)
    fun acc h p hp => h.trans ?_
  exact (writeFrom_adds hK db p.1 nw p.2 0 (acc, [])).mono fun _ hk => ⟨hk.1, p, hp, hk.2⟩

theorem mem_versions_execTxn {db : DB} {t : Nat} {parts : List (Nat × List Ent)} {nw : List Nat} {v : VKey × Ent}
    (hv : v ∈ (execTxn db t parts nw).versions) : v ∈ db.versions ∨ (v.1.t = t ∧ ∃ p ∈ parts, v.1.ds = p.1) :=
  have ⟨_, hn, hP⟩ := (execTxn_adds (K := fun _ => false) rfl db parts nw).versions   -- any `K` will do
  (List.mem_append.1 (hn ▸ hv)).imp_right (hP v)

theorem relatedOut_congr {db db' : DB} {at_ : Nat} {scope : List Nat}
    (hr : (db'.refs.filter (fun r => decide (r.t ≤ at_))).filter (fun r => inScope db' scope r.ds)
      = (db.refs.filter (fun r => decide (r.t ≤ at_))).filter (fun r => inScope db scope r.ds))
    (hd : db'.deletedDs = db.deletedDs) (src pred limit : Nat) (sk : Option RefKey) :
    relatedOut db' src pred at_ limit scope sk = relatedOut db src pred at_ limit scope sk := by
  have hs : inScope db' = inScope db := by funext s d; unfold inScope; rw [hd]
  unfold relatedOut outStep
  rw [hr, hs]

end Hub.Frame
