import Hub.Proofs.RefIdx
/-!
# The reference index of one (dataset, entity) over every history of versions

`Hub.RefIdx.step`, the one-write invariant, lifted to every history with non-decreasing commit times. The predecessor
is "in the same batch" exactly when it carries the same commit time: two batches never share one (the time is taken
under the dataset lock after a sleep).
-/
namespace Hub.RefIdx

def sameBatch (prev : Option Ver) (v : Ver) : Bool := match prev with | some p => p.t == v.t | none => false

def writeAll : List Ver → List Ver → List Key → List Key
  | [], _, ks => ks
  | v :: ws, vs, ks => writeAll ws (vs ++ [v]) (writeRefs ks vs.getLast? (sameBatch vs.getLast? v) v)

structure HInv (vs : List Ver) (ks : List Key) : Prop where
  live : ∀ r at_, liveAt ks r at_ ↔ specLive vs r at_
  kt : ∀ k ∈ ks, ∃ p, vs.getLast? = some p ∧ k.t ≤ p.t     -- what `step` asks of the old keys (`hkt`; `hfresh` with `sameBatch`)

theorem hinv_empty : HInv [] [] :=
  ⟨fun r at_ => by simp [liveAt, specLive, lastLE], by simp⟩

theorem hinv_step (vs : List Ver) (ks : List Key) (v : Ver) (h : HInv vs ks) (hvt : ∀ u ∈ vs, u.t ≤ v.t) :
    HInv (vs ++ [v]) (writeRefs ks vs.getLast? (sameBatch vs.getLast? v) v) := by
  have hkt : ∀ k ∈ ks, k.t ≤ v.t := fun k hk =>
    let ⟨p, hp, hkp⟩ := h.kt k hk; Nat.le_trans hkp (hvt p (List.mem_of_getLast? hp))
  have hfresh : sameBatch vs.getLast? v = false → ∀ k ∈ ks, k.t < v.t := by
    intro hb k hk
    obtain ⟨p, hp, hkp⟩ := h.kt k hk
    have := hvt p (List.mem_of_getLast? hp)
    simp only [hp, sameBatch, beq_eq_false_iff_ne, ne_eq] at hb
    omega
  exact ⟨step vs ks v _ h.live hkt hvt hfresh, fun k hk => ⟨v, by simp, t_le_of_mem_writeRefs hkt hk⟩⟩

theorem hinv_writeAll (ws vs : List Ver) (ks : List Key) (h : HInv vs ks)
    (hp : (vs ++ ws).Pairwise (fun a b => a.t ≤ b.t)) : HInv (vs ++ ws) (writeAll ws vs ks) := by
  induction ws generalizing vs ks with
  | nil => simpa [writeAll] using h
  | cons v ws ih =>
    have h' := hinv_step vs ks v h fun u hu => (List.pairwise_append.1 hp).2.2 u hu v List.mem_cons_self
    simpa [writeAll] using ih (vs ++ [v]) _ h' (by simpa using hp)

end Hub.RefIdx
