import Hub.Model.Registry
import Hub.Proofs.Assoc
/-! The invariant `RInv` of the dataset registry: every operation keeps it (`rinv_step`), so every state reached from the
empty registry has it (`rinv_run`). -/
namespace Hub.Registry

theorem lookup_setMeta (n : String) (d : Bool) (m : List (String × Bool)) (x : String) :
    (setMeta n d m).lookup x = if x = n then some d else m.lookup x := by
  by_cases h : x = n
  · simp [setMeta, h]
  · simp [setMeta, Hub.Assoc.lookup_cons_ne h, Hub.Assoc.lookup_filter_ne, h]

/-- `DeleteDataset`, and the old name of a rename. -/
theorem liveMeta_remove {live : List (String × Nat)} {metas : List (String × Bool)}
    (h : ∀ x, (live.lookup x).isSome ↔ metas.lookup x = some false) (n x : String) :
    ((live.filter (·.1 != n)).lookup x).isSome ↔ (setMeta n true metas).lookup x = some false := by
  rw [Hub.Assoc.lookup_filter_ne, lookup_setMeta]
  by_cases hx : x = n <;> simp [hx, h]

/-- `CreateDataset`, and the new name of a rename. -/
theorem liveMeta_add {live : List (String × Nat)} {metas : List (String × Bool)}
    (h : ∀ x, (live.lookup x).isSome ↔ metas.lookup x = some false) (n : String) (id : Nat) (x : String) :
    (((n, id) :: live).lookup x).isSome ↔ (setMeta n false metas).lookup x = some false := by
  rw [lookup_setMeta]
  by_cases hx : x = n
  · simp [hx]
  · rw [Hub.Assoc.lookup_cons_ne hx, if_neg hx]; exact h x

theorem id_gone {l : List (String × Nat)} (h : (l.map (·.2)).Nodup) {a : String} {id : Nat} (ha : (a, id) ∈ l)
    (p : String × Nat) (hp : p ∈ l.filter (·.1 != a)) : p.2 ≠ id := by
  obtain ⟨hpl, hpa⟩ := List.mem_filter.1 hp
  intro hid
  -- ids are not shared, so `p` would be `(a, id)`; but it survived the filter: its name is not `a`
  have : p = (a, id) := Hub.Assoc.eq_of_nodup_map h hpl ha hid
  simp [this] at hpa

structure RInv (r : Reg) : Prop where
  liveMeta : ∀ n, (r.live.lookup n).isSome ↔ r.metas.lookup n = some false
  idsBelow : ∀ p ∈ r.live, p.2 < r.nextId
  delBelow : ∀ d ∈ r.deleted, d < r.nextId
  liveNotDeleted : ∀ p ∈ r.live, p.2 ∉ r.deleted
  idsNodup : (r.live.map (·.2)).Nodup

theorem rinv_init : RInv {} where
  liveMeta := by intro n; simp
  idsBelow := nofun
  delBelow := nofun
  liveNotDeleted := nofun
  idsNodup := .nil

theorem rinv_step {r : Reg} (h : RInv r) (op : Op) : RInv (step r op) := by
  cases op with
  | create n =>
    simp only [step]
    split
    · exact h
    · -- the new name gets `nextId`, which is above every id in use and every deleted id
      refine { liveMeta := liveMeta_add h.liveMeta n _, idsBelow := ?_, delBelow := ?_, liveNotDeleted := ?_, idsNodup := ?_ }
      · exact List.forall_mem_cons.2 ⟨Nat.lt_succ_self _, fun p hp => Nat.lt_succ_of_lt (h.idsBelow p hp)⟩
      · exact fun d hd => Nat.lt_succ_of_lt (h.delBelow d hd)
      · exact List.forall_mem_cons.2 ⟨fun hd => Nat.lt_irrefl _ (h.delBelow _ hd), h.liveNotDeleted⟩
      · refine List.nodup_cons.2 ⟨fun hm => ?_, h.idsNodup⟩
        obtain ⟨p, hp, hpn⟩ := List.mem_map.1 hm
        exact Nat.lt_irrefl _ (hpn ▸ h.idsBelow p hp)
  | delete n =>
    simp only [step]
    cases hl : r.live.lookup n with
    | none => exact h
    | some id =>
      -- the id of `n` joins the deleted set; no remaining name has it (`id_gone`)
      have hm : (n, id) ∈ r.live := Hub.Assoc.mem_of_lookup hl
      refine { liveMeta := liveMeta_remove h.liveMeta n, idsBelow := ?_, delBelow := ?_, liveNotDeleted := ?_, idsNodup := ?_ }
      · exact fun p hp => h.idsBelow p (List.mem_filter.1 hp).1
      · exact List.forall_mem_cons.2 ⟨h.idsBelow _ hm, h.delBelow⟩
      · intro p hp hd
        rcases List.mem_cons.1 hd with hd | hd
        · exact id_gone h.idsNodup hm p hp hd
        · exact h.liveNotDeleted p (List.mem_filter.1 hp).1 hd
      · exact h.idsNodup.sublist (List.filter_sublist.map _)
  | rename a b =>
    simp only [step]
    cases hl : r.live.lookup a with
    | none => exact h
    | some id =>
      simp only
      split
      · exact h
      · -- the id moves from `a` to `b`: it is still in use once, by `id_gone` for the remaining names
        have hm : (a, id) ∈ r.live := Hub.Assoc.mem_of_lookup hl
        refine { liveMeta := liveMeta_add (liveMeta_remove h.liveMeta a) b id, idsBelow := ?_, delBelow := h.delBelow,
                 liveNotDeleted := ?_, idsNodup := ?_ }
        · exact List.forall_mem_cons.2 ⟨h.idsBelow (a, id) hm, fun p hp => h.idsBelow p (List.mem_filter.1 hp).1⟩
        · exact List.forall_mem_cons.2 ⟨h.liveNotDeleted (a, id) hm, fun p hp => h.liveNotDeleted p (List.mem_filter.1 hp).1⟩
        · refine List.nodup_cons.2 ⟨fun hmm => ?_, h.idsNodup.sublist (List.filter_sublist.map _)⟩
          obtain ⟨p, hp, hpn⟩ := List.mem_map.1 hmm
          exact id_gone h.idsNodup hm p hp hpn

theorem rinv_run (ops : List Op) : RInv (run ops) :=
  List.foldlRecOn ops step rinv_init fun _ h op _ => rinv_step h op

end Hub.Registry
