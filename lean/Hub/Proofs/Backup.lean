import Hub.Model.Backup
import Hub.Proofs.LastBy
/-! A backup file is `Sound` for a log when it holds only genuine entries and `Full` when it holds the newest entry of every
key. Restoring such a file gives the state of the log (`restore_of_sound_full`), and a run of the manager after any further
writes keeps both (`Inv`, `inv_run`). -/
namespace Hub.Backup

def Sound (f : Dump) (l : Log) : Prop := ∀ v e, (v, e) ∈ f → l[v]? = some e
def Full (f : Dump) (l : Log) : Prop := ∀ v e, l[v]? = some e → isNewest l v e = true → (v, e) ∈ f

theorem isNewest_iff {l : Log} {v : Nat} {e : Entry} :
    isNewest l v e = true ↔ ∀ v' e', v < v' → l[v']? = some e' → e'.1 ≠ e.1 := by
  rw [isNewest, Bool.not_eq_true']; exact LastBy.any_drop_eq_false

theorem stateOf_snoc (l : Log) (x : Entry) (k : Nat) :
    stateOf (l ++ [x]) k = if x.1 == k then x.2 else stateOf l k := by
  simp only [stateOf, List.reverse_append, List.reverse_singleton, List.singleton_append, List.find?_cons]
  cases x.1 == k <;> rfl

theorem stateOf_cases (l : Log) (k : Nat) :
    (∃ v e, l[v]? = some e ∧ e.1 = k ∧ isNewest l v e = true ∧ stateOf l k = e.2)
    ∨ ((∀ e ∈ l, e.1 ≠ k) ∧ stateOf l k = none) := by
  unfold stateOf
  cases h : l.reverse.find? (·.1 == k) with
  | none => exact .inr ⟨LastBy.find?_reverse_eq_none.1 h, rfl⟩
  | some e =>
    obtain ⟨q, hq, hk, hn⟩ := LastBy.find?_reverse_eq_some.1 h
    exact .inl ⟨q, e, hq, hk, by rw [isNewest, hn]; rfl, rfl⟩

/-- the step of the fold in `loadOf` (`Model/Backup.lean`), under a name. -/
def pick (best : Option (Nat × Entry)) (x : Nat × Entry) : Option (Nat × Entry) :=
  match best with
  | none => some x
  | some b => if b.1 ≤ x.1 then some x else some b

theorem loadOf_eq (f : Dump) (k : Nat) :
    loadOf f k = match (f.filter (·.2.1 == k)).foldl pick none with | some b => b.2.2 | none => none := rfl

theorem foldl_pick_some : ∀ (es : Dump) (b : Nat × Entry),
    ∃ b' ∈ b :: es, es.foldl pick (some b) = some b' ∧ ∀ x ∈ b :: es, x.1 ≤ b'.1
  | [], b => ⟨b, List.mem_singleton.2 rfl, rfl, fun _ hx => List.mem_singleton.1 hx ▸ Nat.le_refl _⟩
  | x :: es, b => by
    rw [List.foldl_cons, pick]
    split
    next hbx =>  -- `x` replaces `b`: the maximum of `x :: es` also bounds `b`
      obtain ⟨b', hm, h, hle⟩ := foldl_pick_some es x
      refine ⟨b', List.mem_cons_of_mem _ hm, h, List.forall_mem_cons.2 ⟨?_, hle⟩⟩
      exact Nat.le_trans hbx (hle x List.mem_cons_self)
    next hbx =>
      obtain ⟨b', hm, h, hle⟩ := foldl_pick_some es b
      obtain ⟨hb, hes⟩ := List.forall_mem_cons.1 hle
      refine ⟨b', ?_, h, List.forall_mem_cons.2 ⟨hb, List.forall_mem_cons.2 ⟨?_, hes⟩⟩⟩
      · rcases List.mem_cons.1 hm with rfl | hm
        · exact List.mem_cons_self
        · exact List.mem_cons_of_mem _ (List.mem_cons_of_mem _ hm)
      · omega

theorem loadOf_none {f : Dump} {k : Nat} (h : ∀ x ∈ f, x.2.1 ≠ k) : loadOf f k = none := by
  have : f.filter (·.2.1 == k) = [] := List.filter_eq_nil_iff.2 fun x hx => mt beq_iff_eq.1 (h x hx)
  simp only [loadOf, this, List.foldl_nil]

/-- versions tie in a file, hence the second clause of `hmax`: a run dumps the entry at its cursor again (`backup` takes
`since ≤ v`), and `loadOf` lets the later of two equal versions win. -/
theorem loadOf_of_max {f : Dump} {v : Nat} {e : Entry} (hm : (v, e) ∈ f)
    (hmax : ∀ x ∈ f, x.2.1 = e.1 → x.1 ≤ v ∧ (x.1 = v → x.2 = e)) : loadOf f e.1 = e.2 := by
  rw [loadOf_eq]
  have hin : (v, e) ∈ f.filter (·.2.1 == e.1) := List.mem_filter.2 ⟨hm, beq_self_eq_true _⟩
  cases hes : f.filter (·.2.1 == e.1) with
  | nil => rw [hes] at hin; cases hin
  | cons x es =>
    obtain ⟨b, hbm, hb, hle⟩ := foldl_pick_some es x
    rw [List.foldl_cons, show pick none x = some x from rfl, hb]
    rw [← hes] at hbm hle
    obtain ⟨hbf, hbk⟩ := List.mem_filter.1 hbm
    obtain ⟨h1, h2⟩ := hmax b hbf (beq_iff_eq.1 hbk)
    exact congrArg Prod.snd (h2 (Nat.le_antisymm h1 (hle _ hin)))

theorem restore_of_sound_full {f : Dump} {l : Log} (hs : Sound f l) (hf : Full f l) (k : Nat) :
    loadOf f k = stateOf l k := by
  rcases stateOf_cases l k with ⟨v, e, hv, rfl, hn, hst⟩ | ⟨hno, hst⟩ <;> rw [hst]
  · refine loadOf_of_max (hf v e hv hn) fun x hx hk => ?_
    have hx' := hs x.1 x.2 hx
    refine ⟨Nat.le_of_not_lt fun hlt => isNewest_iff.1 hn _ _ hlt hx' hk, fun h => ?_⟩
    rw [h, hv] at hx'; exact (Option.some.inj hx').symm
  · exact loadOf_none fun x hx => hno _ (List.mem_of_getElem? (hs x.1 x.2 hx))

theorem mem_backup {l : Log} {since v : Nat} {e : Entry} :
    (v, e) ∈ backup l since ↔ since ≤ v ∧ l[v]? = some e ∧ isNewest l v e = true := by
  -- `backup` filters the entries of the log, written as `(version, entry)`
  have hmem : (v, e) ∈ l.zipIdx.map (fun (e, v) => (v, e)) ↔ l[v]? = some e := by
    rw [List.mem_map]
    constructor
    · rintro ⟨⟨e', v'⟩, h, heq⟩
      cases heq
      exact List.mem_zipIdx_iff_getElem?.1 h
    · exact fun h => ⟨(e, v), List.mem_zipIdx_iff_getElem?.2 h, rfl⟩
  rw [backup, List.mem_filter, hmem, Bool.and_eq_true, decide_eq_true_eq]
  exact and_left_comm

structure Inv (m : Mgr) (l : Log) : Prop where
  sound : Sound m.file l
  full : Full m.file l
  cur : m.cursor ≤ l.length

theorem inv_init : Inv {} [] where
  sound _ _ h := absurd h List.not_mem_nil
  full _ _ h := absurd h (by simp)
  cur := Nat.le_refl _

theorem isNewest_of_append {l d : Log} {v : Nat} {e : Entry} (h : isNewest (l ++ d) v e = true) :
    isNewest l v e = true :=
  isNewest_iff.2 fun v' e' hlt hv' => isNewest_iff.1 h v' e' hlt (LastBy.getElem?_append_of_some hv' d)

theorem inv_run (m : Mgr) (l d : Log) (h : Inv m l) : Inv (run m (l ++ d)) (l ++ d) where
  sound v e hm := by
    rcases List.mem_append.1 hm with hm | hm
    · exact LastBy.getElem?_append_of_some (h.sound v e hm) d
    · exact (mem_backup.1 hm).2.1
  full v e hv hn := by
    rcases Nat.lt_or_ge v m.cursor with hc | hc
    · -- before the cursor: it was the newest in `l` already, so the old file has it
      rw [List.getElem?_append_left (Nat.lt_of_lt_of_le hc h.cur)] at hv
      exact List.mem_append_left _ (h.full v e hv (isNewest_of_append hn))
    · exact List.mem_append_right _ (mem_backup.2 ⟨hc, hv, hn⟩)
  cur := by
    have hmx : (backup (l ++ d) m.cursor).foldl (fun a x => max a x.1) 0 ≤ (l ++ d).length :=
      List.foldlRecOn (motive := (· ≤ (l ++ d).length)) _ _ (Nat.zero_le _) fun a ha x hx =>
        Nat.max_le.2 ⟨ha, Nat.le_of_lt (List.getElem?_eq_some_iff.1 (mem_backup.1 hx).2.1).1⟩
    have := h.cur
    simp only [run, List.length_append] at hmx ⊢
    split <;> omega

/-- backups taken at arbitrary points of an arbitrary history (`ds` = the writes between runs). -/
def runs : Mgr → Log → List Log → Mgr × Log
  | m, l, [] => (m, l)
  | m, l, d :: ds => runs (run m (l ++ d)) (l ++ d) ds

theorem inv_runs : ∀ (ds : List Log) (m : Mgr) (l : Log), Inv m l → Inv (runs m l ds).1 (runs m l ds).2
  | [], _, _, h => h
  | d :: ds, m, l, h => inv_runs ds _ _ (inv_run m l d h)

end Hub.Backup
