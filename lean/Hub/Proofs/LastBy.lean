/-! The newest entry of a key in an append-only list (`l.reverse.find? (key · == k)`) and the test "no later entry has
the key" (`(l.drop (q + 1)).any (key · == k)`): the change feed of a dataset (both pipeline models) and the version log
behind a backup are read this way. -/
namespace Hub.LastBy

theorem getElem?_append_of_some {α : Type} {l : List α} {i : Nat} {a : α} (h : l[i]? = some a) (d : List α) :
    (l ++ d)[i]? = some a := by
  rwa [List.getElem?_append_left (List.getElem?_eq_some_iff.1 h).1]

variable {α κ : Type} [BEq κ] [LawfulBEq κ] {key : α → κ} {l : List α} {k : κ}

theorem find?_reverse_eq_none : l.reverse.find? (key · == k) = none ↔ ∀ x ∈ l, key x ≠ k := by
  simp

theorem any_drop_eq_false {q : Nat} :
    (l.drop (q + 1)).any (key · == k) = false ↔ ∀ p x, q < p → l[p]? = some x → key x ≠ k := by
  simp only [List.any_eq_false, List.mem_iff_getElem?, List.getElem?_drop, beq_iff_eq]
  -- position `p > q` of `l` is index `p - (q + 1)` of `l.drop (q + 1)`
  constructor
  · intro h p x hlt hp
    exact h x ⟨p - (q + 1), by rwa [Nat.add_sub_cancel' hlt]⟩
  · rintro h x ⟨j, hj⟩
    exact h (q + 1 + j) x (by omega) hj

theorem find?_reverse_eq_some {v : α} :
    l.reverse.find? (key · == k) = some v ↔
      ∃ q, l[q]? = some v ∧ key v = k ∧ (l.drop (q + 1)).any (key · == key v) = false := by
  constructor
  · intro h
    obtain ⟨hk, as, bs, hl, has⟩ := List.find?_eq_some_iff_append.1 h
    obtain rfl : key v = k := beq_iff_eq.1 hk
    -- `l = bs.reverse ++ v :: as.reverse`, and no entry of `as` has the key
    rw [List.reverse_eq_iff, List.reverse_append, List.reverse_cons, List.append_assoc, List.singleton_append] at hl
    refine ⟨bs.length, by simp [hl], rfl, ?_⟩
    rw [hl, ← List.length_reverse, List.drop_length_add_append, List.drop_one, List.tail_cons, List.any_reverse,
      List.any_eq_false]
    exact fun a ha hp => by simpa [hp] using has a ha
  · rintro ⟨q, h1, rfl, h3⟩
    obtain ⟨hq, hv⟩ := List.getElem?_eq_some_iff.1 h1
    rw [← List.take_append_drop (q + 1) l, List.reverse_append, List.find?_append,
      List.find?_eq_none.2 (by simpa using h3), Option.none_or, List.take_succ_eq_append_getElem hq, hv]
    simp
end Hub.LastBy
