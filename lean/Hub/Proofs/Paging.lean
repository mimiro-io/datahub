import Hub.Model.Store
/-! The change-feed scan (`scanG`, `pageG`, `pagesG`), for any keys and any filter. A scan looks at a prefix `pre` of the keys
(`scan_spec`); over strictly increasing positions (`Inc`), seeking to one past the last position looked at finds exactly
the keys not looked at, so a page plus the read from its token is the read from `since` (`page_resume`). -/
namespace Hub.Paging
open Hub.Store

variable {κ ε : Type}

def Inc (l : List (Nat × κ)) : Prop := l.Pairwise fun a b => a.1 < b.1

theorem filterMap_cons_toList (emit : κ → Option ε) (x : Nat × κ) (l : List (Nat × κ)) :
    (x :: l).filterMap (emit ·.2) = (emit x.2).toList ++ l.filterMap (emit ·.2) := by
  cases h : emit x.2 <;> simp [h]

theorem scanG_cons (emit : κ → Option ε) (limit pos : Nat) (k : κ) (rest : List (Nat × κ)) (acc : List ε) (last : Option Nat) :
    scanG emit limit ((pos, k) :: rest) acc last =
      if (emit k).isSome ∧ 0 < limit ∧ (acc ++ (emit k).toList).length = limit then (acc ++ (emit k).toList, some pos, rest)
      else scanG emit limit rest (acc ++ (emit k).toList) (some pos) := by
  cases h : emit k <;> simp [scanG, h]

/-- what a scan of the keys `l` that returned `r` did, in terms of the prefix `pre` of `l` it looked at. -/
structure Scanned (emit : κ → Option ε) (limit : Nat) (l : List (Nat × κ)) (acc : List ε) (last : Option Nat)
    (r : List ε × Option Nat × List (Nat × κ)) (pre : List (Nat × κ)) : Prop where
  rest : l = pre ++ r.2.2
  out : r.1 = acc ++ pre.filterMap (emit ·.2)
  last : r.2.1 = (pre.getLast?.map (·.1)).or last
  stop : r.2.2 = [] ∨ 0 < limit ∧ r.1.length = limit   -- it stops before the end only on a full page
  bound : acc.length < limit → r.1.length ≤ limit

theorem scan_spec (emit : κ → Option ε) (limit : Nat) (l : List (Nat × κ)) (acc : List ε) (last : Option Nat) :
    ∃ pre, Scanned emit limit l acc last (scanG emit limit l acc last) pre := by
  induction l generalizing acc last with
  | nil => exact ⟨[], { rest := rfl, out := (List.append_nil _).symm, last := rfl, stop := .inl rfl, bound := Nat.le_of_lt }⟩
  | cons x rest ih =>
    obtain ⟨pos, k⟩ := x
    rw [scanG_cons]
    split
    next h =>
      exact ⟨[(pos, k)], { rest := rfl, out := by simp [filterMap_cons_toList], last := rfl, stop := .inr h.2
                           bound := fun _ => Nat.le_of_eq h.2.2 }⟩
    next h =>
      obtain ⟨pre, hp⟩ := ih (acc ++ (emit k).toList) (some pos)
      refine ⟨(pos, k) :: pre, { rest := by rw [List.cons_append, ← hp.rest]
                                 out := by rw [hp.out, filterMap_cons_toList, List.append_assoc]
                                 last := ?_, stop := hp.stop, bound := fun hlt => hp.bound ?_ }⟩
      · rw [hp.last, List.getLast?_cons]
        cases pre.getLast? <;> rfl
      · -- one more version on a page below the limit did not fill it, or the scan had stopped here
        cases h' : emit k with
        | none => simpa [h'] using hlt
        | some e =>
          have hne : (acc ++ [e]).length ≠ limit := fun he => h ⟨by simp [h'], by omega, by simpa [h'] using he⟩
          rw [List.length_append] at hne ⊢
          simp only [Option.toList_some, List.length_cons, List.length_nil] at hne ⊢
          omega

@[simp] theorem mem_fromPos {l : List (Nat × κ)} {a : Nat} {x : Nat × κ} : x ∈ fromPos a l ↔ x ∈ l ∧ a ≤ x.1 := by
  simp [fromPos]

theorem fromPos_zero (l : List (Nat × κ)) : fromPos 0 l = l := List.filter_eq_self.2 (by simp)

theorem fromPos_append {pre suf : List (Nat × κ)} {a : Nat} (hp : ∀ x ∈ pre, x.1 < a) (hs : ∀ y ∈ suf, a ≤ y.1) :
    fromPos a (pre ++ suf) = suf := by
  unfold fromPos
  rw [List.filter_append, List.filter_eq_nil_iff.2 fun x hx => by simpa using hp x hx,
    List.filter_eq_self.2 fun y hy => by simpa using hs y hy, List.nil_append]

theorem fromPos_succ_last {ini suf : List (Nat × κ)} {x : Nat × κ} (h : Inc (ini ++ [x] ++ suf)) :
    fromPos (x.1 + 1) (ini ++ [x] ++ suf) = suf := by
  obtain ⟨hi, -, hs⟩ := List.pairwise_append.1 h
  obtain ⟨-, -, hix⟩ := List.pairwise_append.1 hi
  refine fromPos_append (fun y hy => ?_) fun y hy => hs x (by simp) y hy
  rcases List.mem_append.1 hy with hy | hy
  · exact Nat.lt_succ_of_lt (hix y hy x (by simp))
  · rw [List.mem_singleton.1 hy]; exact Nat.lt_succ_self _

theorem fromPos_fromPos (l : List (Nat × κ)) (a b : Nat) (hab : a ≤ b) :
    fromPos b (fromPos a l) = fromPos b l := by
  unfold fromPos
  rw [List.filter_filter]
  exact List.filter_congr fun y _ => by simpa using Nat.le_trans hab

/-- one page plus everything readable from its token = everything readable from `since`:
nothing skipped, nothing repeated, for every limit and every filter. -/
theorem page_resume (emit : κ → Option ε) (es : List (Nat × κ)) (hinc : Inc es) (since limit : Nat) :
    (pageG emit es since limit).1 ++ (fromPos (pageG emit es since limit).2 es).filterMap (emit ·.2)
      = (fromPos since es).filterMap (emit ·.2) := by
  unfold pageG
  obtain ⟨pre, hs⟩ := scan_spec emit limit (fromPos since es) [] none
  generalize scanG emit limit (fromPos since es) [] none = r at hs ⊢
  have hpre := hs.rest
  simp only [hs.out, hs.last, List.nil_append, Option.or_none]
  cases hl : pre.getLast? with
  | none => obtain rfl := List.getLast?_eq_none_iff.1 hl; simp
  | some x =>
    obtain ⟨ini, rfl⟩ := List.getLast?_eq_some_iff.1 hl
    -- the token is one past the last key looked at; seeking to it finds exactly the keys not looked at
    have hxm : x ∈ fromPos since es := by rw [hpre]; simp
    have hx : since ≤ x.1 := (mem_fromPos.1 hxm).2
    have hinc' : Inc (ini ++ [x] ++ r.2.2) := hpre ▸ hinc.filter _
    have : fromPos (x.1 + 1) es = r.2.2 := by
      rw [← fromPos_fromPos es since _ (Nat.le_succ_of_le hx), hpre]
      exact fromPos_succ_last hinc'
    simp only [Option.map_some, this]
    rw [← List.filterMap_append, ← hpre]

theorem pages_resume (emit : κ → Option ε) (es : List (Nat × κ)) (hinc : Inc es) :
    ∀ (limits : List Nat) (since : Nat),
      (pagesG emit es since limits).1.flatten ++ (fromPos (pagesG emit es since limits).2 es).filterMap (emit ·.2)
      = (fromPos since es).filterMap (emit ·.2)
  | [], since => by simp [pagesG]
  | l :: ls, since => by
    simp only [pagesG, List.flatten_cons, List.append_assoc]
    rw [pages_resume emit es hinc ls (pageG emit es since l).2]
    exact page_resume emit es hinc since l

theorem page_unlimited (emit : κ → Option ε) (es : List (Nat × κ)) (since : Nat) :
    (pageG emit es since 0).1 = (fromPos since es).filterMap (emit ·.2) := by
  obtain ⟨pre, hs⟩ := scan_spec emit 0 (fromPos since es) [] none
  rcases hs.stop with hend | h
  · rw [hs.rest, hend, List.append_nil]; exact hs.out
  · exact absurd h.1 (Nat.lt_irrefl 0)

theorem page_at_end (emit : κ → Option ε) (es : List (Nat × κ)) (since limit : Nat)
    (h : ∀ x ∈ es, x.1 < since) : pageG emit es since limit = ([], since) := by
  have : fromPos since es = [] := by simpa using fromPos_append (suf := []) h (by simp)
  simp [pageG, this, scanG]

end Hub.Paging
