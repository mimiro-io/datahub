import Hub.Proofs.StoreInv
import Hub.Proofs.Frame
/-!
# A multi-dataset transaction refines its per-dataset batches

`ExecuteTransaction` lets every dataset's write loop read the snapshot taken *before* the transaction. With one part
per dataset, what a part reads of it the parts before it have not touched: the transaction is its batches at one time.
-/
namespace Hub.TxnRefine
open Hub.Store Hub.StoreInv

theorem writeOne_congr {snap snap' : DB} {ds : Nat} (h : ∀ rid, snap.stored ds rid = snap'.stored ds rid) (t : Nat) (nw : List Nat)
    (st : DB × List (Nat × Ent)) (x : Nat × Ent) : writeOne snap ds t nw st x = writeOne snap' ds t nw st x := by
  have hp : prevOf snap ds st.2 x.2.rid = prevOf snap' ds st.2 x.2.rid := by
    unfold prevOf; rw [h]
  unfold writeOne
  rw [hp]

theorem writeFrom_congr (snap snap' : DB) (ds t : Nat) (nw : List Nat) (h : ∀ rid, snap.stored ds rid = snap'.stored ds rid) :
    ∀ (xs : List Ent) (i : Nat) (st : DB × List (Nat × Ent)),
      writeFrom snap ds t nw i xs st = writeFrom snap' ds t nw i xs st := by
  intro xs i st
  fun_induction writeFrom snap ds t nw i xs st with
  | case1 => rfl
  | case2 i e xs st ih => rw [writeFrom, ← writeOne_congr h t nw, ih]

theorem specFrom_vers_other {ds d : Nat} (h : d ≠ ds) (t j : Nat) (xs : List Ent) (i : Nat) (S : Spec) :
    (specFrom ds t i xs S).vers d j = S.vers d j := by
  fun_induction specFrom ds t i xs S with
  | case1 => rfl
  | case2 i e xs S ih => rw [ih, specOne_vers, if_neg fun hc => h hc.1]

/-- the per-dataset batches of a transaction, one after the other, all at commit time `t`. -/
def batches (db : DB) (t : Nat) (parts : List (Nat × List Ent)) : DB := parts.foldl (fun acc p => storeBatch acc p.1 t p.2) db
def specTxn (t : Nat) (parts : List (Nat × List Ent)) (S : Spec) : Spec := parts.foldl (fun S p => specFrom p.1 t 0 p.2 S) S

theorem specTxn_vers_other (t d j : Nat) (ps : List (Nat × List Ent)) (h : ∀ q ∈ ps, q.1 ≠ d) (S : Spec) :
    (specTxn t ps S).vers d j = S.vers d j :=
  List.foldlRecOn (motive := fun S' => S'.vers d j = S.vers d j) ps _ rfl fun S' hS' q hq =>
    (specFrom_vers_other (h q hq).symm t j q.2 0 S').trans hS'

theorem execTxn_concat (db : DB) (t : Nat) (ps : List (Nat × List Ent)) (p : Nat × List Ent) (nw : List Nat) :
    execTxn db t (ps ++ [p]) nw = (writeFrom db p.1 t nw 0 p.2 (execTxn db t ps nw, [])).1 := by
  simp [execTxn]

theorem specTxn_concat (t : Nat) (ps : List (Nat × List Ent)) (p : Nat × List Ent) (S : Spec) :
    specTxn t (ps ++ [p]) S = specFrom p.1 t 0 p.2 (specTxn t ps S) := by
  simp [specTxn]

/-- A transaction is its per-dataset batches one after the other, and keeps `Inv`. For any `newIds`; `batches`, `runTxns`
and the histories below fix the model's default `[]`. -/
theorem execTxn_refines (nw : List Nat) (db : DB) (S : Spec) (hI : Inv db S) (t : Nat) (parts : List (Nat × List Ent))
    (hd : (parts.map (·.1)).Nodup) (hfresh : ∀ p ∈ parts, ∀ v ∈ db.versions, v.1.ds = p.1 → v.1.t < t) :
    execTxn db t parts nw = parts.foldl (fun acc p => storeBatch acc p.1 t p.2 nw) db
    ∧ Inv (execTxn db t parts nw) (specTxn t parts S) := by
  -- by induction from the end: what the last part reads of the snapshot, the parts before it (other datasets) have not touched
  generalize hr : parts.reverse = rp
  induction rp generalizing parts with
  | nil => rw [List.reverse_eq_nil_iff.1 hr]; exact ⟨rfl, hI⟩
  | cons p rp ih =>
    obtain rfl : parts = rp.reverse ++ [p] := by rw [← List.reverse_reverse parts, hr, List.reverse_cons]
    rw [List.map_append, List.nodup_append] at hd
    have hne : ∀ q ∈ rp.reverse, q.1 ≠ p.1 := fun q hq => hd.2.2 _ (List.mem_map_of_mem hq) _ (List.mem_singleton_self _)
    obtain ⟨hE, hA⟩ := ih _ hd.1 (fun q hq => hfresh q (List.mem_append_left _ hq)) (List.reverse_reverse _)
    have hread : ∀ rid, db.stored p.1 rid = (execTxn db t rp.reverse nw).stored p.1 rid := fun rid => by
      rw [stored_eq_last hI.v, stored_eq_last hA.v, specTxn_vers_other t p.1 rid _ hne]
    -- so the last part, reading `db`, writes what the batch reading the state before it writes
    have heq : execTxn db t (rp.reverse ++ [p]) nw = storeBatch (execTxn db t rp.reverse nw) p.1 t p.2 nw :=
      (execTxn_concat db t _ p nw).trans (congrArg Prod.fst (writeFrom_congr db _ p.1 t nw hread p.2 0 _))
    rw [heq, specTxn_concat, List.foldl_append, List.foldl_cons, List.foldl_nil, ← hE]
    refine ⟨rfl, inv_storeBatch hA p.1 t (fun v hv hds => ?_) p.2 nw⟩
    rcases Hub.Frame.mem_versions_execTxn hv with hv | ⟨-, q, hq, hqd⟩
    · exact hfresh p (List.mem_append_right _ (List.mem_singleton_self _)) v hv hds
    · exact absurd (hqd.symm.trans hds) (hne q hq)

theorem txn_refines (db : DB) (S : Spec) (hI : Inv db S) (t : Nat) (parts : List (Nat × List Ent))
    (hd : (parts.map (·.1)).Nodup) (hfresh : ∀ p ∈ parts, ∀ v ∈ db.versions, v.1.ds = p.1 → v.1.t < t) :
    execTxn db t parts = batches db t parts ∧ Inv (execTxn db t parts) (specTxn t parts S) :=
  execTxn_refines [] db S hI t parts hd hfresh

/-- histories of transactions `(commit time, [(dataset, entities)])`; a plain batch is a transaction with one part. -/
def runTxns (h : List (Nat × List (Nat × List Ent))) (db : DB) : DB := h.foldl (fun db w => execTxn db w.1 w.2) db
def specTxns (h : List (Nat × List (Nat × List Ent))) (S : Spec) : Spec := h.foldl (fun S w => specTxn w.1 w.2 S) S

/-- Commit times need only increase per dataset: the write locks are per dataset, so the times of transactions over
disjoint datasets may interleave. -/
theorem txns_refine_of_fresh (h : List (Nat × List (Nat × List Ent))) (db : DB) (S : Spec) (hI : Inv db S)
    (hb : ∀ v ∈ db.versions, ∀ w ∈ h, ∀ p ∈ w.2, v.1.ds = p.1 → v.1.t < w.1)
    (hp : h.Pairwise (fun a b => ∀ p ∈ a.2, ∀ q ∈ b.2, p.1 = q.1 → a.1 < b.1))
    (hd : ∀ w ∈ h, (w.2.map (·.1)).Nodup) : Inv (runTxns h db) (specTxns h S) := by
  induction h generalizing db S with
  | nil => exact hI
  | cons w ws ih =>
    obtain ⟨hw, hp⟩ := List.pairwise_cons.1 hp
    have hI' : Inv (execTxn db w.1 w.2) (specTxn w.1 w.2 S) :=
      (txn_refines db S hI w.1 w.2 (hd w (.head _)) fun p hp v hv => hb v hv w (.head _) p hp).2
    refine ih _ _ hI' (fun v hv w' hw' q hq hds => ?_) hp fun w' hw' => hd w' (.tail _ hw')
    rcases Hub.Frame.mem_versions_execTxn hv with hv | ⟨ht, p, hp', hpd⟩
    · exact hb v hv w' (.tail _ hw') q hq hds
    · exact ht ▸ hw w' hw' p hp' q hq (hpd.symm.trans hds)

theorem txns_refine : ∀ (h : List (Nat × List (Nat × List Ent))) (db : DB) (S : Spec), Inv db S →
    (∀ v ∈ db.versions, ∀ w ∈ h, v.1.t < w.1) → h.Pairwise (fun a b => a.1 < b.1) →
    (∀ w ∈ h, (w.2.map (·.1)).Nodup) → Inv (runTxns h db) (specTxns h S) :=
  fun h db S hI hb hp hd =>
    txns_refine_of_fresh h db S hI (fun v hv w hw _ _ _ => hb v hv w hw) (hp.imp fun hab _ _ _ _ _ => hab) hd

theorem inv_reachable (h : List (Nat × List (Nat × List Ent))) (hinc : h.Pairwise (fun a b => a.1 < b.1))
    (hd : ∀ w ∈ h, (w.2.map (·.1)).Nodup) : Inv (runTxns h {}) (specTxns h {}) :=
  txns_refine h {} {} inv_empty (fun _ hv => nomatch hv) hinc hd

end Hub.TxnRefine
