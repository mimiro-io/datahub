/-! Reference index of one (dataset, source entity): the write path keeps "newest key ≤ at is live" equal to "last version
≤ at is live and carries the ref". `Ver`, `Key`, `insert`, `erase`, `writeRefs` are a model of their own: `writeRefs` is
`Hub.Store.writeRefs` for one (dataset, entity) without its `isnew` branch (`removedRefs` = `old.filter (· ∉ v.refs)`);
no theorem links the two. -/
namespace Hub.RefIdx

abbrev Ref := Nat × Nat            -- (predicate, target)

structure Ver where
  t : Nat
  deleted : Bool
  refs : List Ref
  deriving Repr

structure Key where
  t : Nat
  r : Ref
  del : Bool
  deriving DecidableEq, Repr

/-- ascending key order of one ref; the reverse scan meets the greatest rank first (at equal time the tombstone). -/
def Key.rank (k : Key) : Nat := 2 * k.t + (if k.del then 1 else 0)

def insert (ks : List Key) (k : Key) : List Key := if k ∈ ks then ks else k :: ks
def erase (ks : List Key) (k : Key) : List Key := ks.filter (· ≠ k)

/-- the write path for a version `v` whose predecessor is `prev` (`inBatch`: the predecessor was
written earlier in the same batch, hence at the same time). -/
def writeRefs (ks : List Key) (prev : Option Ver) (inBatch : Bool) (v : Ver) : List Key :=
  let old := match prev with | some p => p.refs | none => []
  if v.deleted then
    old.foldl (fun ks r => insert ks ⟨v.t, r, true⟩) ks
  else
    let ks1 := v.refs.foldl (fun ks r =>
      let ks := insert ks ⟨v.t, r, false⟩
      if inBatch then erase ks ⟨v.t, r, true⟩ else ks) ks
    (old.filter (· ∉ v.refs)).foldl (fun ks r => insert ks ⟨v.t, r, true⟩) ks1

/-- what the reverse scan decides for ref `r` as of `at`. -/
def liveAt (ks : List Key) (r : Ref) (at_ : Nat) : Prop :=
  ∃ k ∈ ks, k.r = r ∧ k.t ≤ at_ ∧ k.del = false ∧ ∀ k' ∈ ks, k'.r = r → k'.t ≤ at_ → k'.rank ≤ k.rank

def lastLE (vs : List Ver) (at_ : Nat) : Option Ver := (vs.filter (·.t ≤ at_)).getLast?
/-- spec: the last version recorded ≤ at is live and carries the ref -/
def specLive (vs : List Ver) (r : Ref) (at_ : Nat) : Prop :=
  ∃ v, lastLE vs at_ = some v ∧ v.deleted = false ∧ r ∈ v.refs

theorem mem_insert {ks : List Key} {k x : Key} : x ∈ insert ks k ↔ x = k ∨ x ∈ ks := by
  unfold insert; split
  · exact ⟨Or.inr, by rintro (rfl | h) <;> assumption⟩
  · simp

theorem mem_erase {ks : List Key} {k x : Key} : x ∈ erase ks k ↔ x ∈ ks ∧ x ≠ k := by
  unfold erase; simp

theorem Key.eq_mk_iff {x : Key} {t : Nat} {r : Ref} {d : Bool} : x = ⟨t, r, d⟩ ↔ x.t = t ∧ x.del = d ∧ x.r = r := by
  cases x; simp [and_comm]

/-- Membership after one of the folds of `writeRefs`: `g` is the fold body, `d` the deleted bit of the keys it inserts
(time `t`, one per reference), `c` the condition under which it also erases the key with the other bit. -/
theorem mem_foldl_step {t : Nat} {d : Bool} {c : Prop} {g : List Key → Ref → List Key}
    (hg : ∀ ks r x, x ∈ g ks r ↔ x = ⟨t, r, d⟩ ∨ (x ∈ ks ∧ ¬ (c ∧ x = ⟨t, r, !d⟩))) (x : Key) (rs : List Ref) (ks : List Key) :
    x ∈ rs.foldl g ks ↔
      (x.t = t ∧ x.del = d ∧ x.r ∈ rs) ∨ (x ∈ ks ∧ ¬ (c ∧ x.t = t ∧ x.del = (!d) ∧ x.r ∈ rs)) := by
  induction rs generalizing ks with
  | nil => simp
  | cons r rs ih =>
    simp only [List.foldl_cons, ih, hg, List.mem_cons, Key.eq_mk_iff]
    by_cases hd : x.del = d
    · -- bit `d`: never erased; "inserted for `r`, for one of `rs`, or in `ks`" is only reassociated
      simp [hd, and_or_left, or_assoc, or_left_comm]
    · -- the other bit: never inserted; "in `ks`, erased neither for `r` nor for one of `rs`" is regrouped
      simp [hd, imp_and, and_assoc]

/-- the `match` that `writeRefs` inlines. -/
def oldRefs (prev : Option Ver) : List Ref := match prev with | some p => p.refs | none => []

theorem mem_writeRefs (ks : List Key) (prev : Option Ver) (inBatch : Bool) (v : Ver) (x : Key) :
    x ∈ writeRefs ks prev inBatch v ↔
      (x.t = v.t ∧ if x.del then x.r ∈ oldRefs prev ∧ (v.deleted = true ∨ x.r ∉ v.refs) else v.deleted = false ∧ x.r ∈ v.refs) ∨
      (x ∈ ks ∧ ¬ (v.deleted = false ∧ inBatch = true ∧ x.t = v.t ∧ x.del = true ∧ x.r ∈ v.refs)) := by
  have tomb := mem_foldl_step (t := v.t) (d := true) (c := False) (g := fun ks r => insert ks ⟨v.t, r, true⟩)
    (fun ks r x => by simp [mem_insert]) x
  have live := mem_foldl_step (t := v.t) (d := false) (c := inBatch = true)
    (g := fun ks r => if inBatch then erase (insert ks ⟨v.t, r, false⟩) ⟨v.t, r, true⟩ else insert ks ⟨v.t, r, false⟩)
    (fun ks r x => by
      cases inBatch with
      | false => simp [mem_insert]
      | true =>
        simp [mem_insert, mem_erase, or_and_right]
        -- left: the live key just inserted is not the tombstone that is erased
        exact or_congr_left (and_iff_left_of_imp fun h => by simp [h])) x
  simp only [writeRefs, oldRefs]
  cases v.deleted with
  | true => -- only the tombstone fold
    cases hd : x.del <;> simp [tomb, hd]
  | false => -- the live fold over `v.refs`, then the tombstone fold over the dropped old references
    cases hd : x.del <;> simp [tomb, live, hd]

theorem t_le_of_mem_writeRefs {ks : List Key} {prev : Option Ver} {inBatch : Bool} {v : Ver} {x : Key}
    (hkt : ∀ k ∈ ks, k.t ≤ v.t) (h : x ∈ writeRefs ks prev inBatch v) : x.t ≤ v.t :=
  ((mem_writeRefs ..).1 h).elim (fun h => Nat.le_of_eq h.1) (fun h => hkt x h.1)

theorem rank_le_rank {a b : Key} : a.rank ≤ b.rank ↔ a.t < b.t ∨ (a.t = b.t ∧ (a.del = true → b.del = true)) := by
  unfold Key.rank
  cases a.del <;> cases b.del <;> simp <;> omega

theorem rank_le_of_t_le {k : Key} {t : Nat} (h : k.t ≤ t) : k.rank ≤ 2 * t + 1 := by
  unfold Key.rank
  split <;> omega

theorem liveAt_congr {ks ks' : List Key} {r : Ref} {at_ : Nat} (h : ∀ x : Key, x.r = r → x.t ≤ at_ → (x ∈ ks' ↔ x ∈ ks)) :
    liveAt ks' r at_ ↔ liveAt ks r at_ := by
  constructor <;> rintro ⟨k, hk, h1, h2, h3, h4⟩
  · exact ⟨k, (h k h1 h2).1 hk, h1, h2, h3, fun k' hk' a b => h4 k' ((h k' a b).2 hk') a b⟩
  · exact ⟨k, (h k h1 h2).2 hk, h1, h2, h3, fun k' hk' a b => h4 k' ((h k' a b).1 hk') a b⟩

theorem lastLE_append_lt (vs : List Ver) (v : Ver) (at_ : Nat) (h : at_ < v.t) :
    lastLE (vs ++ [v]) at_ = lastLE vs at_ := by
  simp [lastLE, List.filter_append, List.filter, Nat.not_le.2 h]

theorem lastLE_append_ge (vs : List Ver) (v : Ver) (at_ : Nat) (h : v.t ≤ at_) :
    lastLE (vs ++ [v]) at_ = some v := by
  simp [lastLE, List.filter_append, List.filter, h]

theorem lastLE_all (vs : List Ver) (at_ : Nat) (h : ∀ u ∈ vs, u.t ≤ at_) : lastLE vs at_ = vs.getLast? := by
  unfold lastLE
  rw [List.filter_eq_self.2]
  intro u hu; simpa using h u hu

/-- Index invariant step (I4 of DESIGN §3.5): writing version `v` after predecessor `vs.getLast?` keeps
"newest key ≤ at is live ⇔ last version ≤ at is live and has the ref", for every ref and instant. -/
theorem step (vs : List Ver) (ks : List Key) (v : Ver) (inBatch : Bool)
    (hI : ∀ r at_, liveAt ks r at_ ↔ specLive vs r at_)
    (hkt : ∀ k ∈ ks, k.t ≤ v.t) (hvt : ∀ u ∈ vs, u.t ≤ v.t)
    (hfresh : inBatch = false → ∀ k ∈ ks, k.t < v.t)
    (r : Ref) (at_ : Nat) :
    liveAt (writeRefs ks vs.getLast? inBatch v) r at_ ↔ specLive (vs ++ [v]) r at_ := by
  have hmem := mem_writeRefs ks vs.getLast? inBatch v
  by_cases hat : at_ < v.t
  · -- the past is untouched: the write adds and removes keys of time `v.t` only
    rw [specLive, lastLE_append_lt vs v at_ hat, ← specLive, ← hI r at_]
    refine liveAt_congr fun x _ hx => ?_
    have hne : x.t ≠ v.t := by omega
    rw [hmem]; simp [hne]
  have hge : v.t ≤ at_ := Nat.le_of_not_lt hat
  have hspec : specLive (vs ++ [v]) r at_ ↔ (v.deleted = false ∧ r ∈ v.refs) := by
    simp [specLive, lastLE_append_ge vs v at_ hge]
  rw [hspec]
  by_cases hw : v.deleted = false ∧ r ∈ v.refs
  · -- `v` writes `r`: its live key of time `v.t` is the newest key of `r`
    have hkey : (⟨v.t, r, false⟩ : Key) ∈ writeRefs ks vs.getLast? inBatch v := (hmem _).2 (.inl ⟨rfl, hw⟩)
    refine iff_of_true ⟨⟨v.t, r, false⟩, hkey, rfl, hge, rfl, fun k' hk' h1 _ => rank_le_rank.2 ?_⟩ hw
    rcases (hmem k').1 hk' with ⟨e, hnew⟩ | ⟨hk, hkept⟩
    · -- a new key of `r` is no tombstone: `v` is live and carries `r`
      refine .inr ⟨e, fun hdel => ?_⟩
      rw [hdel, if_pos rfl, h1] at hnew
      exact False.elim (hnew.2.elim (fun h => by simp [hw.1] at h) (fun h => h hw.2))
    · -- an older key: of an earlier time, or (same batch) of this time and then not a tombstone, which was erased
      cases hb : inBatch with
      | false => exact .inl (hfresh hb k' hk)
      | true =>
        rcases Nat.lt_or_eq_of_le (hkt k' hk) with hlt | heq
        · exact .inl hlt
        · exact .inr ⟨heq, fun hdel => (hkept ⟨hw.1, hb, heq, hdel, h1 ▸ hw.2⟩).elim⟩
  · -- `v` does not write `r`: the keys of `r` are the old ones and, if the predecessor carried `r`, a tombstone of time `v.t`
    refine iff_of_false (fun hl => ?_) hw
    have hW : ∀ x : Key, x.r = r → (x ∈ writeRefs ks vs.getLast? inBatch v ↔
        (x.t = v.t ∧ x.del = true ∧ r ∈ oldRefs vs.getLast?) ∨ x ∈ ks) := by
      intro x hx
      rw [hmem, hx]
      cases hd : v.deleted
      · have hnr : r ∉ v.refs := fun h => hw ⟨hd, h⟩
        cases x.del <;> simp [hnr]
      · cases x.del <;> simp
    by_cases hold : r ∈ oldRefs vs.getLast?
    · -- that tombstone beats every key
      obtain ⟨k, hk, h1, h2, h3, h4⟩ := hl
      have hkle := t_le_of_mem_writeRefs hkt hk
      rcases rank_le_rank.1 (h4 ⟨v.t, r, true⟩ ((hW _ rfl).2 (.inl ⟨rfl, rfl, hold⟩)) rfl hge) with hlt | ⟨_, hdel⟩
      · exact Nat.not_lt.2 hkle hlt
      · simp [h3] at hdel
    · -- the old keys make `r` live only if the predecessor carries it
      have hks : liveAt ks r at_ := (liveAt_congr fun x hx _ => by rw [hW x hx]; simp [hold]).1 hl
      rw [hI r at_, specLive, lastLE_all vs at_ fun u hu => Nat.le_trans (hvt u hu) hge] at hks
      obtain ⟨p, hp, _, hr⟩ := hks
      exact hold (by simp [oldRefs, hp, hr])

end Hub.RefIdx
