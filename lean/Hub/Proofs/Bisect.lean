import Hub.Model.Bisect
/-! What one call of `processEntities` (`Hub.Bisect.procG`) does: its induction principle over the tree of sink
calls, the specification that holds for every item limit and every sink, and the error flag it carries. -/
namespace Hub.Bisect
variable {E σ : Type}

theorem Res.ok_or_max (r : Res) : r = .ok ∨ r = .maxItems := by cases r <;> simp

theorem handle_eq (m : Nat) (s : St E σ) (sk : σ) (e : E) :
    handle m s sk e = (s.report sk e, if 0 < m ∧ m ≤ s.count + 1 then .maxItems else .ok) :=
  (apply_ite (Prod.mk (s.report sk e)) _ _ _).symm

/-- Induction over the tree of sink calls of `procG`. The halves appear as `l ++ r`, so that no user has to know
where the split is. -/
theorem procG_induct {acc : St E σ → σ → List E → St E σ} (sinkF : σ → List E → Bool × σ) (m : Nat)
    {P : List E → St E σ → St E σ × Res → Prop}
    (accept : ∀ es s sk, sinkF s.sink es = (true, sk) → P es s (acc s sk es, .ok))
    (empty : ∀ s sk, sinkF s.sink [] = (false, sk) → P [] s (s.failEmpty sk, .ok))
    (single : ∀ e s sk, sinkF s.sink [e] = (false, sk) → P [e] s (handle m s sk e))
    (stop : ∀ l r s sk L, sinkF s.sink (l ++ r) = (false, sk) → P l (s.enter sk) L → L.2 = .maxItems →
      P (l ++ r) s L)
    (go : ∀ l r s sk L R, sinkF s.sink (l ++ r) = (false, sk) → P l (s.enter sk) L → L.2 = .ok → P r L.1 R →
      P (l ++ r) s R)
    (es : List E) (s : St E σ) : P es s (procG acc sinkF m es s) := by
  have rej : ∀ {p : Bool × σ}, ¬p.1 = true → p = (false, p.2) := fun h => Prod.ext (Bool.not_eq_true _ ▸ h) rfl
  fun_induction procG acc sinkF m es s with
  | case1 es s r h => exact accept es s r.2 (Prod.ext h rfl)
  | case2 s _ r h => exact empty s r.2 (rej h)
  | case3 s e tl hl r h =>
    cases tl with
    | nil => exact single e s r.2 (rej h)
    | cons _ _ => simp at hl
  | case4 es s r h _ L hL ih =>
    have := stop _ (es.drop (es.length / 2)) s r.2 L (by rw [List.take_append_drop]; exact rej h) ih hL
    rwa [List.take_append_drop] at this
  | case5 es s r h _ L hL ihL _ ihR =>
    have := go _ _ s r.2 L _ (by rw [List.take_append_drop]; exact rej h) ihL (L.2.ok_or_max.resolve_right hL) ihR
    rwa [List.take_append_drop] at this

/-- What one call `r = proc sinkF m es s` does, for any item limit `m` (0 = none), any sink and any state it starts in. -/
structure ProcSpec (m : Nat) (es : List E) (s : St E σ) (r : St E σ × Res) : Prop where
  counter : r.1.count + s.reported.length = s.count + r.1.reported.length
  reportedGrows : s.reported.length ≤ r.1.reported.length
  maxOnlyAtLimit : r.2 = .maxItems → 0 < m ∧ m ≤ r.1.count
  /-- started below the limit, the counter stays within it and reaches it only with `maxItems` -/
  withinLimit : s.count < m → r.1.count ≤ m ∧ (r.2 = .ok → r.1.count < m)
  /-- what was delivered or reported is a prefix of the batch, all of it unless the call ended with `maxItems` -/
  prefixDone : ∃ k, k ≤ es.length ∧ (r.2 = .ok → k = es.length) ∧
    (r.1.delivered ++ r.1.reported).Perm (s.delivered ++ s.reported ++ es.take k)

theorem proc_spec (sinkF : σ → List E → Bool × σ) (m : Nat) (es : List E) (s : St E σ) :
    ProcSpec m es s (proc sinkF m es s) := by
  refine procG_induct sinkF m (P := ProcSpec m) ?_ ?_ ?_ ?_ ?_ es s
  · -- an accepted batch
    intro es s sk _
    exact {
      counter := rfl
      reportedGrows := Nat.le_refl _
      maxOnlyAtLimit := nofun
      withinLimit := fun h => ⟨Nat.le_of_lt h, fun _ => h⟩
      prefixDone := ⟨es.length, Nat.le_refl _, fun _ => rfl, by
        simp only [St.accept, List.append_assoc, List.take_length]
        exact List.Perm.append_left _ List.perm_append_comm⟩ }
  · -- a rejected empty batch
    intro s sk _
    exact {
      counter := rfl
      reportedGrows := Nat.le_refl _
      maxOnlyAtLimit := nofun
      withinLimit := fun h => ⟨Nat.le_of_lt h, fun _ => h⟩
      prefixDone := ⟨0, Nat.le_refl _, fun _ => rfl, by simp [St.failEmpty]⟩ }
  · -- one rejected entity: reported, counter up by one, `maxItems` iff that reached the limit
    intro e s sk _
    rw [handle_eq]
    dsimp only [St.report]
    -- below the limit, the new counter `s.count + 1` is within it; if it reaches `m` the handler returns `maxItems`, not `ok`
    have within : s.count < m → s.count + 1 ≤ m ∧
        ((if 0 < m ∧ m ≤ s.count + 1 then Res.maxItems else .ok) = .ok → s.count + 1 < m) := by
      intro hlt
      refine ⟨hlt, fun hok => Nat.lt_of_le_of_ne hlt fun heq => ?_⟩
      rw [if_pos ⟨by omega, by omega⟩] at hok
      cases hok
    exact {
      counter := by simp; omega
      reportedGrows := by simp
      maxOnlyAtLimit := fun h => Decidable.by_contra fun hm => by rw [if_neg hm] at h; cases h
      withinLimit := within
      prefixDone := ⟨1, Nat.le_refl _, fun _ => rfl, by simp⟩ }
  · -- the left half ended with `maxItems`: so does the call
    intro l r s sk L _ hl hL
    obtain ⟨k, hk, _, hp⟩ := hl.prefixDone
    exact { hl with
      prefixDone := ⟨k, by simp; omega, by simp [hL], by rwa [List.take_append_of_le_length hk]⟩ }
  · -- the left half returned `ok`: it consumed all of `l` and stayed below the limit, so the right half starts there
    intro l r s sk L R _ hl hL hr
    obtain ⟨_, _, hkl, lp⟩ := hl.prefixDone
    obtain ⟨k, hk, hkr, rp⟩ := hr.prefixDone
    cases hkl hL
    have l1 := hl.counter
    have l2 := hl.reportedGrows
    have l4 := hl.withinLimit
    simp only [St.enter, List.take_length] at l1 l2 l4 lp
    exact {
      counter := by have := hr.counter; omega
      reportedGrows := by have := hr.reportedGrows; omega
      maxOnlyAtLimit := hr.maxOnlyAtLimit
      withinLimit := fun h => hr.withinLimit ((l4 h).2 hL)
      prefixDone := ⟨l.length + k, by simp; omega, fun h => by simp [hkr h], by
        rw [List.take_length_add_append, ← List.append_assoc]
        exact rp.trans (lp.append_right _)⟩ }

theorem proc_permanent (sinkF : σ → List E → Bool × σ) (bad : E → Bool)
    (hsink : ∀ sk es, (sinkF sk es).1 = !es.any bad) (es : List E) (s : St E σ) :
    (proc sinkF 0 es s).1.delivered = s.delivered ++ es.filter (fun e => !bad e)
    ∧ (proc sinkF 0 es s).1.reported = s.reported ++ es.filter bad
    ∧ (proc sinkF 0 es s).2 = .ok := by
  refine procG_induct sinkF 0 (P := fun es s r =>
    r.1.delivered = s.delivered ++ es.filter (fun e => !bad e)
    ∧ r.1.reported = s.reported ++ es.filter bad ∧ r.2 = .ok) ?_ ?_ ?_ ?_ ?_ es s
  · intro es s sk h
    have hnone : ∀ e ∈ es, bad e = false := by simpa [hsink] using congrArg Prod.fst h
    rw [List.filter_eq_self.2 fun e he => by rw [hnone e he]; rfl,
      List.filter_eq_nil_iff.2 fun e he => by simp [hnone e he]]
    exact ⟨rfl, (List.append_nil _).symm, rfl⟩
  · intro s sk h; simpa [hsink] using congrArg Prod.fst h
  · intro e s sk h
    have hb : bad e = true := by simpa [hsink] using congrArg Prod.fst h
    simp [handle_eq, St.report, hb]
  · rintro l r s sk L _ ⟨_, _, hok⟩ hL; rw [hok] at hL; cases hL
  · rintro l r s sk L R _ ⟨ld, lr, _⟩ _ ⟨rd, rr, rok⟩
    simp [rd, rr, rok, ld, lr, St.enter]

/-- once something was reported in this run, the error flags are set. -/
def Carries (s : St E σ) : Prop := s.reported ≠ [] → s.lastErr = true ∧ s.failed = true

theorem Carries.enter {s : St E σ} (h : Carries s) (sk : σ) : Carries (s.enter sk) :=
  fun hr => ⟨(h hr).1, rfl⟩

theorem proc_carries (sinkF : σ → List E → Bool × σ) (m : Nat) (es : List E) (s : St E σ) :
    Carries s → Carries (proc sinkF m es s).1 := by
  refine procG_induct sinkF m (P := fun _ s r => Carries s → Carries r.1) ?_ ?_ ?_ ?_ ?_ es s
  · -- an accepted batch clears `lastErr` only at depth 0 of a run that has not failed yet
    intro es s sk _ h hr
    obtain ⟨h1, h2⟩ := h hr
    simp [St.accept, h1, h2]
  · intro s sk _ _ _; simp [St.failEmpty]
  · intro e s sk _ _ _; simp [handle_eq, St.report]
  · intro l r s sk L _ ih _ h
    exact ih (h.enter sk)
  · intro l r s sk L R _ ihL _ ihR h
    exact ihR (ihL (h.enter sk))

theorem run_carries (sinkF : σ → List E → Bool × σ) (m : Nat) (bs : List (List E)) (s : St E σ)
    (h : Carries s) : Carries (run sinkF m bs s).1 := by
  unfold run
  induction bs generalizing s with
  | nil => exact h
  | cons b bs ih =>
    simp only [runG]
    split
    · exact proc_carries sinkF m b s h
    · exact ih _ (proc_carries sinkF m b s h)

end Hub.Bisect
