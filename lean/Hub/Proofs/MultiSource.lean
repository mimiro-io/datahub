import Hub.Model.MultiSource
/-! About `Hub.Multi`: the keys `dedupDeps` keeps, `reverseHops` in recursive form, one hop of `chainFrom`, the rule for a pass. -/
namespace Hub.Multi
open Hub.Store

theorem mem_keys_dedupDeps (k : String) (l : List Dep) (seen : List String) :
    k ∈ (dedupDeps l seen).map depKey ↔ k ∈ l.map depKey ∧ k ∉ seen := by
  induction l generalizing seen with
  | nil => simp [dedupDeps]
  | cons d ds ih =>
    rw [dedupDeps, List.map_cons, List.mem_cons]
    by_cases hc : depKey d ∈ seen
    · -- `d` is dropped: its key is in `seen`, so it is none of the keys outside `seen`
      rw [if_pos (by simpa using hc), ih]
      exact and_congr_left fun hk => (or_iff_right fun (e : k = depKey d) => hk (e ▸ hc)).symm
    · -- `d` is kept, and its key is in `seen` for the rest
      rw [if_neg (by simpa using hc), List.map_cons, List.mem_cons, ih, List.mem_cons]
      by_cases hk : k = depKey d
      · simp [hk, hc]
      · simp [hk]

theorem dedupDeps_nodup (l : List Dep) (seen : List String) : ((dedupDeps l seen).map depKey).Nodup := by
  induction l generalizing seen with
  | nil => simp [dedupDeps]
  | cons d ds ih => by_cases hc : depKey d ∈ seen <;> simp [dedupDeps, hc, mem_keys_dedupDeps, ih]

/-- the joins `reverseHops` builds for a path starting in dataset `from_`: last hop first, each turned round. -/
def revJoins (from_ : String) : List Hop → List Join
  | [] => []
  | h :: rest => revJoins h.ds rest ++ [{ ds := from_, pred := h.pred, inv := !h.inv }]

/-- where the path ends: the dataset of the last hop (`from_` for the empty path). -/
def lastHopDs (from_ : String) : List Hop → String
  | [] => from_
  | h :: rest => lastHopDs h.ds rest

theorem zipJoins_rev (main : String) (hops : List Hop) :
    ((hops.zip (main :: (hops.map (·.ds)).dropLast)).map (fun hf => ({ ds := hf.2, pred := hf.1.pred, inv := !hf.1.inv } : Join))).reverse
      = revJoins main hops := by
  induction hops generalizing main with
  | nil => rfl
  | cons h rest ih =>
    rw [revJoins, ← ih h.ds]
    cases rest <;> simp

theorem getLast_lastHopDs (main : String) (hops : List Hop) (l : Hop) (h : hops.getLast? = some l) :
    lastHopDs main hops = l.ds := by
  induction hops generalizing main with
  | nil => cases h
  | cons a rest ih =>
    cases rest with
    | nil => cases h; rfl
    | cons b rest => exact ih a.ds (by simpa using h)

theorem reverseHops_eq (main : String) (hops : List Hop) (hne : hops ≠ []) :
    reverseHops main hops = some { ds := lastHopDs main hops, joins := revJoins main hops } := by
  unfold reverseHops
  cases hl : hops.getLast? with
  | none => exact absurd (List.getLast?_eq_none_iff.1 hl) hne
  | some l =>
    simp only
    rw [zipJoins_rev, getLast_lastHopDs main hops l hl]

theorem mem_hop {rel : Rel} {s p : Nat} {inv : Bool} {scope : List Nat} {now idx : Nat} {prevAt : Option Nat} {m : Nat} :
    m ∈ rel s p inv scope now ++
        (if idx = 0 && !inv then (match prevAt with | some t => rel s p false scope t | none => []) else []) ↔
      m ∈ rel s p inv scope now ∨ (idx = 0 ∧ inv = false ∧ ∃ t, prevAt = some t ∧ m ∈ rel s p false scope t) := by
  rw [List.mem_append]
  refine or_congr_right ?_
  -- the second list is `rel s p false scope t` when `idx = 0`, `inv = false` and `prevAt = some t`, and empty otherwise
  cases inv
  · by_cases h0 : idx = 0 <;> cases prevAt <;> simp [h0]
  · simp

/-- The rule for a pass: `P` holds of (emitted ids, token) afterwards if it survives the two things a dependency does,
appending ids that passed the `mainLive` filter and setting the token of a listed dependency. The cache plays no role. -/
theorem depsPass_inv {rel : Rel} {db : DB} {predId dsId : String → Option Nat} {cfg : Cfg} {now : Nat}
    {P : List Nat × Tok → Prop} (deps : List Dep) (tok : Tok) (cache : List (String × (List Nat × Nat))) (acc : List Nat)
    (emit : ∀ {acc tok} {ids : List Nat} {mainId}, dsId cfg.main = some mainId → P (acc, tok) →
      P (acc ++ ids.filter (mainLive db mainId · now), tok))
    (move : ∀ {acc tok d c}, d ∈ deps → P (acc, tok) → P (acc, tok.setDep d.ds c))
    (h : P (acc, tok)) : P (depsPass rel db predId dsId cfg now deps tok cache acc) := by
  induction deps generalizing tok cache acc with
  | nil => exact h
  | cons dep rest ih =>
    unfold depsPass
    cases hd : dsId dep.ds with
    | none => exact h
    | some dd =>
      cases hm : dsId cfg.main with
      | none => exact h
      | some mainId =>
        refine ih _ _ _ (fun hd => move (List.mem_cons_of_mem _ hd)) ?_
        cases rest.any (·.ds == dep.ds)
        · exact move List.mem_cons_self (emit hm h)
        · exact emit hm h

end Hub.Multi
