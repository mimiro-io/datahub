import Hub.Proofs.SortBy
import Hub.Proofs.Assoc
/-!
# The dataset listing and its paging (`MapEntitiesRaw` with a key-based continuation)

The listing resolves the latest pointers of a dataset in rid order; with one pointer per (dataset, id) its rids strictly
increase. `listPage` seeks to the continuation key (the rid of the last entity of the previous page) and steps over it;
over such a listing this is a window, and following the tokens tiles the listing.
-/
namespace Hub.ListPaging
open Hub.Store

abbrev Row := Nat × Ent

def Incr (L : List Row) : Prop := L.Pairwise (fun a b => a.1 < b.1)

/-- `Seek(from)` then step over the key itself. -/
def afterRid (r : Nat) (L : List Row) : List Row :=
  (L.dropWhile (fun p => p.1 < r)).dropWhile (fun p => p.1 == r)

theorem afterRid_all_gt (r : Nat) : ∀ (L : List Row), (∀ p ∈ L, r < p.1) → afterRid r L = L := by
  intro L h
  cases L with
  | nil => rfl
  | cons p L =>
    have hp := h p List.mem_cons_self
    simp [afterRid, Nat.lt_asymm hp, Nat.ne_of_gt hp]

theorem afterRid_append_cons {A B : List Row} {x : Row} (h : Incr (A ++ x :: B)) : afterRid x.1 (A ++ x :: B) = B := by
  obtain ⟨-, hxB, hA⟩ := List.pairwise_append.1 h
  unfold afterRid
  -- the seek skips `A` and stops at `x`; the step skips `x` and stops at the next row
  rw [List.dropWhile_append_of_pos fun a ha => decide_eq_true (hA a ha x List.mem_cons_self),
    List.dropWhile_cons_of_neg (by simp), List.dropWhile_cons_of_pos (by simp)]
  cases B with
  | nil => rfl
  | cons b B =>
    exact List.dropWhile_cons_of_neg (by simpa using Nat.ne_of_gt ((List.pairwise_cons.1 hxB).1 b List.mem_cons_self))

theorem mem_listAll {db : DB} (hn : (db.latest.map (·.1)).Nodup) (ds rid : Nat) (e : Ent) :
    (rid, e) ∈ listAll db ds ↔ db.stored ds rid = some e := by
  unfold listAll DB.stored
  simp only [List.mem_filterMap, Hub.SortBy.mem_sortBy, List.mem_filter, Option.map_eq_some_iff, Prod.mk.injEq,
    Option.bind_eq_some_iff, beq_iff_eq]
  constructor
  · rintro ⟨⟨⟨d, r⟩, k⟩, ⟨hp, rfl⟩, e', hget, rfl, rfl⟩
    exact ⟨k, Hub.Assoc.lookup_of_mem_nodup db.latest hn hp, hget⟩
  · rintro ⟨k, hl, hget⟩
    exact ⟨((ds, rid), k), ⟨Hub.Assoc.mem_of_lookup hl, rfl⟩, e, hget, rfl, rfl⟩

theorem listAll_incr {db : DB} (hn : (db.latest.map (·.1)).Nodup) (ds : Nat) : Incr (listAll db ds) := by
  -- the pointers of one dataset differ in their rids
  have hne : (db.latest.filter fun p => p.1.1 == ds).Pairwise fun a b => decide (a.1.2 < b.1.2) ∨ decide (b.1.2 < a.1.2) :=
    ((List.pairwise_map.1 hn).filter _).imp_of_mem fun {a b} ha hb hab => by
      have h1 : a.1.1 = b.1.1 := (eq_of_beq (List.mem_filter.1 ha).2).trans (eq_of_beq (List.mem_filter.1 hb).2).symm
      exact (Nat.lt_or_gt_of_ne fun h => hab (Prod.ext h1 h)).imp decide_eq_true decide_eq_true
  -- so sorting them by rid gives strictly increasing rids
  have hsorted := Hub.SortBy.sortBy_strict (lt := fun (a b : (Nat × Nat) × VKey) => decide (a.1.2 < b.1.2))
    (fun _ _ _ h1 h2 => decide_eq_true (Nat.lt_trans (of_decide_eq_true h1) (of_decide_eq_true h2)))
    (fun _ => decide_eq_false (Nat.lt_irrefl _)) hne
  refine hsorted.filterMap _ fun a b hab x hx y hy => ?_
  obtain ⟨_, _, rfl⟩ := Option.map_eq_some_iff.1 hx
  obtain ⟨_, _, rfl⟩ := Option.map_eq_some_iff.1 hy
  exact of_decide_eq_true hab

/-- the reader: follow the tokens through a list of page sizes (`0` = everything). -/
def pages (db : DB) (ds : Nat) : Option Nat → List Nat → List (List Ent)
  | _, [] => []
  | tok, c :: cs => let r := listPage db ds tok c; r.1 :: pages db ds r.2 cs

theorem listPage_eq (db : DB) (ds : Nat) (from? : Option Nat) (count : Nat) :
    listPage db ds from? count =
      let rest := match from? with | none => listAll db ds | some r => afterRid r (listAll db ds)
      let page := rest.take (if count = 0 then rest.length else count)
      (page.map (·.2), (page.getLast?.map (·.1)).or from?) := by
  have (rest : List Row) : (if count = 0 then rest else rest.take count) = rest.take (if count = 0 then rest.length else count) := by
    split <;> simp
  simp only [listPage, afterRid, this]
  cases List.getLast? _ <;> rfl

/-- The token of a reader that has consumed the rows `A` is the rid of the last of them. -/
theorem listPage_window {db : DB} {ds : Nat} (hinc : Incr (listAll db ds)) {A B : List Row} (hL : listAll db ds = A ++ B) (count : Nat) :
    listPage db ds (A.getLast?.map (·.1)) count =
      let W := B.take (if count = 0 then B.length else count)
      (W.map (·.2), (A ++ W).getLast?.map (·.1)) := by
  rw [hL] at hinc
  have hrest : (match A.getLast?.map (·.1) with | none => A ++ B | some r => afterRid r (A ++ B)) = B := by
    cases hl : A.getLast? with
    | none => rw [List.getLast?_eq_none_iff.1 hl]; rfl
    | some x =>
      obtain ⟨A', rfl⟩ := List.getLast?_eq_some_iff.1 hl
      rw [List.append_assoc] at hinc ⊢
      exact afterRid_append_cons hinc
  simp only [listPage_eq, hL, hrest, List.getLast?_append, Option.map_or]

/-- any page sizes, then a final unlimited read (`cs ++ [0]`). -/
theorem pages_tile {db : DB} {ds : Nat} (hinc : Incr (listAll db ds)) (cs : List Nat) {A B : List Row}
    (hL : listAll db ds = A ++ B) : (pages db ds (A.getLast?.map (·.1)) (cs ++ [0])).flatten = B.map (·.2) := by
  induction cs generalizing A B with
  | nil => simp [pages, listPage_window hinc hL]
  | cons c cs ih =>
    have hw := listPage_window hinc hL c
    generalize (if c = 0 then B.length else c) = n at hw
    have hL' : listAll db ds = A ++ B.take n ++ B.drop n := by rw [List.append_assoc, List.take_append_drop, hL]
    simp only [List.cons_append, pages, hw, List.flatten_cons, ih hL']
    rw [← List.map_append, List.take_append_drop]

end Hub.ListPaging
