import Hub.Model.IdTxn
import Hub.Proofs.Assoc
/-! Invariant of the shared identifier transaction under every interleaving of writers, rejections and crashes. `Inv` is
stated field by field (the property theorems quote `safe` and `below`); the proofs use two independent halves (`inv_iff`):
what each writer relies on (`W.Ok`, kept when the table grows or entries move to `durable`) and the table being one-to-one
(`Tbl`). -/
namespace Hub.IdTxn

structure Inv (s : St) : Prop where
  filling : ∀ x ∈ s.ws, x.pc = .filling → ∀ p ∈ x.mine, p ∈ s.pending ∨ p ∈ s.durable
  safe : ∀ x ∈ s.ws, (x.pc = .idsCommitted ∨ x.pc = .acked) → ∀ p ∈ x.mine, p ∈ s.durable
  below : ∀ p ∈ s.pending ++ s.durable, p.2 < s.next
  func : ∀ p ∈ s.pending ++ s.durable, ∀ q ∈ s.pending ++ s.durable, p.1 = q.1 → p.2 = q.2
  inj : ∀ p ∈ s.pending ++ s.durable, ∀ q ∈ s.pending ++ s.durable, p.2 = q.2 → p.1 = q.1

def W.Ok (pe du : List (Uri × Nat)) (x : W) : Prop :=
  (x.pc = .filling → ∀ p ∈ x.mine, p ∈ pe ∨ p ∈ du) ∧ (x.pc = .idsCommitted ∨ x.pc = .acked → ∀ p ∈ x.mine, p ∈ du)

def Tbl (l : List (Uri × Nat)) (n : Nat) : Prop :=
  (∀ p ∈ l, p.2 < n) ∧ ∀ p ∈ l, ∀ q ∈ l, p.1 = q.1 ↔ p.2 = q.2

theorem inv_iff {s : St} : Inv s ↔ (∀ x ∈ s.ws, x.Ok s.pending s.durable) ∧ Tbl (s.pending ++ s.durable) s.next := by
  constructor
  · intro h
    exact ⟨fun x hx => ⟨h.filling x hx, h.safe x hx⟩, h.below, fun p hp q hq => ⟨h.func p hp q hq, h.inj p hp q hq⟩⟩
  · rintro ⟨hw, hbelow, hiff⟩
    exact { filling := fun x hx => (hw x hx).1, safe := fun x hx => (hw x hx).2, below := hbelow,
            func := fun p hp q hq => (hiff p hp q hq).1, inj := fun p hp q hq => (hiff p hp q hq).2 }

theorem inv_init : Inv {} := inv_iff.2 ⟨List.forall_mem_nil _, List.forall_mem_nil _, List.forall_mem_nil _⟩

theorem Tbl.mono {l l' : List (Uri × Nat)} {n n' : Nat} (h : Tbl l n) (hl : ∀ p ∈ l', p ∈ l) (hn : n ≤ n') : Tbl l' n' :=
  ⟨fun p hp => Nat.lt_of_lt_of_le (h.1 p (hl p hp)) hn, fun p hp q hq => h.2 p (hl p hp) q (hl q hq)⟩

theorem Tbl.cons {l : List (Uri × Nat)} {n : Nat} (h : Tbl l n) {u : Uri} (hu : l.lookup u = none) :
    Tbl ((u, n) :: l) (n + 1) := by
  -- `u` and `n` are both fresh: no entry of `l` has either
  have hu : ∀ q ∈ l, u ≠ q.1 := fun q hq => bne_iff_ne.1 (List.lookup_eq_none_iff.1 hu q hq)
  have hn : ∀ q ∈ l, n ≠ q.2 := fun q hq => Nat.ne_of_gt (h.1 q hq)
  constructor
  · intro p hp
    rcases List.mem_cons.1 hp with rfl | hp
    · exact Nat.lt_succ_self n
    · exact Nat.lt_succ_of_lt (h.1 p hp)
  · intro p hp q hq
    rcases List.mem_cons.1 hp with rfl | hp
    · rcases List.mem_cons.1 hq with rfl | hq
      · exact ⟨fun _ => rfl, fun _ => rfl⟩
      · exact ⟨fun e => absurd e (hu q hq), fun e => absurd e (hn q hq)⟩
    · rcases List.mem_cons.1 hq with rfl | hq
      · exact ⟨fun e => absurd e.symm (hu p hp), fun e => absurd e.symm (hn p hp)⟩
      · exact h.2 p hp q hq

theorem W.Ok.mono {pe du pe' du' : List (Uri × Nat)} {x : W} (h : x.Ok pe du)
    (h1 : ∀ p, p ∈ pe ∨ p ∈ du → p ∈ pe' ∨ p ∈ du') (h2 : ∀ p ∈ du, p ∈ du') : x.Ok pe' du' :=
  ⟨fun hp p hm => h1 p (h.1 hp p hm), fun hp p hm => h2 p (h.2 hp p hm)⟩

theorem W.Ok.push {pe du : List (Uri × Nat)} {x : W} (h : x.Ok pe du) (hx : x.pc = .filling) {p : Uri × Nat}
    (hp : p ∈ pe ∨ p ∈ du) : W.Ok pe du { x with mine := p :: x.mine } :=
  ⟨fun _ => List.forall_mem_cons.2 ⟨hp, h.1 hx⟩, fun hc => by simp [hx] at hc⟩

theorem W.Ok.gone {pe du : List (Uri × Nat)} {x : W} (hx : x.pc = .gone) : x.Ok pe du :=
  ⟨fun hc => by simp [hx] at hc, fun hc => by simp [hx] at hc⟩

theorem forall_modW {Q : W → Prop} {f : W → W} : ∀ {ws : List W} {w : Nat},
    (∀ x ∈ ws, Q x) → (∀ x, ws[w]? = some x → Q (f x)) → ∀ y ∈ modW ws w f, Q y
  | [], _, _, _ => by simp [modW]
  | x :: xs, 0, h, hf => by
    simp only [modW, List.forall_mem_cons] at h ⊢
    exact ⟨hf x rfl, h.2⟩
  | x :: xs, n + 1, h, hf => by
    simp only [modW, List.forall_mem_cons] at h ⊢
    exact ⟨h.1, forall_modW h.2 hf⟩

theorem ok_modW {s : St} {w : Nat} {c : Pc} (hpc : pcOf s w = some c) {pe du : List (Uri × Nat)}
    (hw : ∀ x ∈ s.ws, x.Ok pe du) {f : W → W} (hf : ∀ x, x.pc = c → x.Ok pe du → (f x).Ok pe du) :
    ∀ y ∈ modW s.ws w f, y.Ok pe du :=
  forall_modW hw fun x hx => hf x (by simpa [pcOf, hx] using hpc) (hw x (List.mem_of_getElem? hx))

theorem Inv.agree {s : St} (h : Inv s) {x y : W} (hx : x ∈ s.ws) (hy : y ∈ s.ws) (hxg : x.pc ≠ .gone) (hyg : y.pc ≠ .gone) :
    ∀ p ∈ x.mine, ∀ q ∈ y.mine, p.1 = q.1 → p.2 = q.2 := by
  have mem : ∀ z ∈ s.ws, z.pc ≠ .gone → ∀ r ∈ z.mine, r ∈ s.pending ++ s.durable := by
    intro z hz hzg r hr
    cases hpc : z.pc with
    | filling => exact List.mem_append.2 (h.filling z hz hpc r hr)
    | idsCommitted => exact List.mem_append_right _ (h.safe z hz (.inl hpc) r hr)
    | acked => exact List.mem_append_right _ (h.safe z hz (.inr hpc) r hr)
    | gone => exact absurd hpc hzg
  exact fun p hp q hq => h.func p (mem x hx hxg p hp) q (mem y hy hyg q hq)

theorem inv_guard {s t : St} {w : Nat} {c : Pc} (h : Inv s) (ht : pcOf s w = some c → Inv t) :
    Inv (if pcOf s w ≠ some c then s else t) := by
  split
  · exact h
  · exact ht (Decidable.not_not.1 ‹_›)

theorem inv_step (s : St) (st : Step) (h : Inv s) : Inv (step false s st) := by
  obtain ⟨hw, ht⟩ := inv_iff.1 h
  cases st with
  | start =>
    have hnew : W.Ok s.pending s.durable {} := ⟨fun _ _ => nofun, fun _ _ => nofun⟩
    exact inv_iff.2 ⟨List.forall_mem_append.2 ⟨hw, List.forall_mem_singleton.2 hnew⟩, ht⟩
  | assign w u =>
    refine inv_guard h fun hpc => ?_
    cases hl : s.lookup u with
    | some i =>
      have hin : (u, i) ∈ s.pending ∨ (u, i) ∈ s.durable := List.mem_append.1 (Assoc.mem_of_lookup hl)
      exact inv_iff.2 ⟨ok_modW hpc hw fun x hx hok => hok.push hx hin, ht⟩
    | none =>
      have hw' : ∀ x ∈ s.ws, x.Ok ((u, s.next) :: s.pending) s.durable := fun x hx =>
        (hw x hx).mono (fun _ hp => hp.imp_left (List.mem_cons_of_mem _)) fun _ hp => hp
      exact inv_iff.2 ⟨ok_modW hpc hw' fun x hx hok => hok.push hx (.inl List.mem_cons_self), ht.cons hl⟩
  | commitIds w =>
    refine inv_guard h fun hpc => ?_
    -- `pending` moves into `durable`: what `w` found in either is durable now
    have hw' : ∀ x ∈ s.ws, x.Ok [] (s.pending ++ s.durable) := fun x hx =>
      (hw x hx).mono (fun _ hp => .inr (List.mem_append.2 hp)) fun _ hp => List.mem_append_right _ hp
    exact inv_iff.2 ⟨ok_modW hpc hw' fun x hx hok =>
      ⟨nofun, fun _ p hp => (hok.1 hx p hp).resolve_left List.not_mem_nil⟩, ht⟩
  | commitData w =>
    -- `idsCommitted` and `acked` ask the same of the table
    exact inv_guard h fun hpc => inv_iff.2 ⟨ok_modW hpc hw fun x hx hok => ⟨nofun, fun _ => hok.2 (.inl hx)⟩, ht⟩
  | reject w =>
    exact inv_guard h fun hpc => inv_iff.2 ⟨ok_modW hpc hw fun _ _ _ => .gone rfl, ht⟩
  | crash k =>
    -- `pending` is lost; only acknowledged writers survive, and they never relied on it
    refine inv_iff.2 ⟨List.forall_mem_map.2 fun y hy => ?_,
      ht.mono (fun p hp => List.mem_append_right _ hp) (Nat.le_add_right _ _)⟩
    by_cases hya : y.pc = .acked
    · rw [if_pos hya]
      exact ⟨fun hc => by simp [hya] at hc, fun _ => (hw y hy).2 (.inr hya)⟩
    · rw [if_neg hya]
      exact .gone rfl

theorem inv_run (l : List Step) (s : St) (h : Inv s) : Inv (run false s l) :=
  List.foldlRecOn l _ h fun s h st _ => inv_step s st h

end Hub.IdTxn
