import Hub.Model.Parser
/-! The streaming parser applied to the serialisation of a value tree yields its denotation (for C15). Each
composite step of a round-trip proof goes through an equation of the parser on the token at hand or through what
`exp … = some _` says about the parts; both kinds are stated once, first. -/
namespace Hub.Parser
variable {res : String → Except String String}

theorem resO_some (h : resO res s = some s') : res s = .ok s' := by
  unfold resO at h; split at h <;> simp_all

theorem mapRes_cons_some (h : mapRes res (s :: l) = some l') :
    ∃ s1 l1, res s = .ok s1 ∧ mapRes res l = some l1 ∧ l' = s1 :: l1 := by
  simp only [mapRes] at h; split at h
  · next hs hl => cases h; exact ⟨_, _, resO_some hs, hl, rfl⟩
  · cases h

theorem expRefs_cons_some (h : expRefs res ((k, v) :: p) = some p') :
    ∃ k1 v1 p1, res k = .ok k1 ∧ expR res v = some v1 ∧ expRefs res p = some p1 ∧ p' = (k1, v1) :: p1 := by
  simp only [expRefs] at h; split at h
  · next hk hv hp => cases h; exact ⟨_, _, _, hk, hv, hp, rfl⟩
  · cases h

theorem expL_cons_some (h : expL res (v :: l) = some l') :
    ∃ v1 l1, exp res v = some v1 ∧ expL res l = some l1 ∧ l' = v1 :: l1 := by
  simp only [expL] at h; split at h
  · next hv hl => cases h; exact ⟨_, _, hv, hl, rfl⟩
  · cases h

theorem expP_cons_some (h : expP res ((k, v) :: p) = some p') :
    (v = .null ∧ expP res p = some p') ∨
    ∃ k1 v1 p1, res k = .ok k1 ∧ exp res v = some v1 ∧ expP res p = some p1 ∧ p' = (k1, v1) :: p1 := by
  by_cases hv : v = .null
  · subst hv; exact .inl ⟨rfl, h⟩
  · simp only [expP] at h; split at h
    · next hk hv hp => cases h; exact .inr ⟨_, _, _, hk, hv, hp, rfl⟩
    · cases h

theorem exp_ent_some {id} (h : exp res (.ent id del props refs) = some v') :
    id ≠ "@continuation" ∧ ∃ i p r, res id = .ok i ∧ expP res props = some p ∧ expRefs res refs = some r
      ∧ v' = .ent i del p r := by
  simp only [exp] at h; split at h
  · cases h
  · next hid =>
    split at h
    · next hi hp hr => cases h; exact ⟨hid, _, _, _, hi, hp, hr, rfl⟩
    · cases h

theorem pRefArray_str (h : res s = .ok s') (f : Nat) (acc : List String) (ts : List Tok) :
    pRefArray res (f + 1) acc (.str s :: ts) = pRefArray res f (acc ++ [s']) ts := by
  simp only [pRefArray, h]

theorem pRefValue_str (h : res s = .ok s') (f : Nat) (ts : List Tok) : pRefValue res f (.str s :: ts) = .ok (.one s', ts) := by
  simp only [pRefValue, h]

theorem pRefValue_la (h : pRefArray res f [] ts = .ok (l, r)) : pRefValue res f (.la :: ts) = .ok (.many l, r) := by
  simp only [pRefValue, h]

theorem pRefsLoop_str (hv : pRefValue res f ts = .ok (v, r)) (hk : res k = .ok k') (acc : List (String × R)) :
    pRefsLoop res (f + 1) acc (.str k :: ts) = pRefsLoop res f (acc ++ [(k', v)]) r := by
  simp only [pRefsLoop, hv, hk]

theorem pPropsLoop_str (hv : pValue res f ts = .ok (some v, r)) (hk : res k = .ok k') (acc : List (String × V)) :
    pPropsLoop res (f + 1) acc (.str k :: ts) = pPropsLoop res f (acc ++ [(k', v)]) r := by
  simp only [pPropsLoop, hv, hk]

theorem value_of_array (h : pArray res f [] ts = .ok (l, r)) :
    pValue res (f + 1) (.la :: ts) = .ok (some (.arr l), r)
    ∧ ∀ acc, pArray res (f + 1) acc (.la :: ts) = pArray res f (acc ++ [.arr l]) r := by
  simp only [pValue, pArray, h, implies_true, and_self]

theorem value_of_entity (h : pEntity res f {} ts = .ok (e, r)) :
    pValue res (f + 1) (.lb :: ts) = .ok (some e, r)
    ∧ ∀ acc, pArray res (f + 1) acc (.lb :: ts) = pArray res f (acc ++ [e]) r := by
  simp only [pValue, pArray, h, implies_true, and_self]

theorem pElems_lb (h : pEntity res f {} ts = .ok (e, r)) (acc : List V) :
    pElems res (f + 1) acc (.lb :: ts) = pElems res f (acc ++ [e]) r := by
  simp only [pElems, h]

section
variable (f : Nat) (a : Acc) (ts : List Tok)

theorem pEntity_id : pEntity res (f + 1) a (.str "id" :: ts) = match ts with
    | .str s :: r =>
      if s = "@continuation" then pEntity res f { a with id := s, cont := true } r
      else match res s with
        | .ok i => pEntity res f { a with id := i } r
        | .error e => .error e
    | _ => .error "id must be a string" := rfl

/- `rfl` closes the next four as well; in this form `String.reduceEq` decides the key comparisons, which `rfl` does by
unfolding `String.decEq` at two to three times the checking work. -/
theorem pEntity_recorded : pEntity res (f + 1) a (.str "recorded" :: ts) = match ts with
    | .num _ :: r => pEntity res f a r
    | _ => .error "recorded must be a number" := by
  show ite _ _ _ = _; simp only [String.reduceEq, ↓reduceIte]; rfl

theorem pEntity_deleted : pEntity res (f + 1) a (.str "deleted" :: ts) = match ts with
    | .bool b :: r => pEntity res f { a with deleted := b } r
    | _ => .error "deleted must be a boolean" := by
  show ite _ _ _ = _; simp only [String.reduceEq, ↓reduceIte]; rfl

theorem pEntity_props : pEntity res (f + 1) a (.str "props" :: ts) = match pProps res f ts with
    | .ok (p, r) => pEntity res f { a with props := p } r
    | .error e => .error e := by
  show ite _ _ _ = _; simp only [String.reduceEq, ↓reduceIte]; rfl

theorem pEntity_refs : pEntity res (f + 1) a (.str "refs" :: ts) = match pRefs res f ts with
    | .ok (p, r) => pEntity res f { a with refs := p } r
    | .error e => .error e := by
  show ite _ _ _ = _; simp only [String.reduceEq, ↓reduceIte]; rfl

end

theorem fuel_succ {n f : Nat} (h : n < f) : ∃ g, f = g + 1 := ⟨f - 1, by omega⟩

theorem toks_pos (v : V) : 0 < (toks v).length := by cases v <;> exact Nat.succ_pos _

/-! `rtX`: the parser of X, on the tokens of `x` followed by `rest` and with fuel for those tokens, returns the denotation
of `x` and `rest`. -/
variable (res)

theorem rtRefArray {l l' : List String} {f : Nat} (acc : List String) (r : List Tok)
    (h : mapRes res l = some l') (hf : l.length + 1 ≤ f) :
    pRefArray res f acc (l.map .str ++ .ra :: r) = .ok (acc ++ l', r) := by
  obtain ⟨f, rfl⟩ := fuel_succ hf
  induction l generalizing l' acc f with
  | nil => cases h; rw [List.append_nil]; rfl
  | cons s l ih =>
    obtain ⟨s1, l1, hs, hl, rfl⟩ := mapRes_cons_some h
    obtain ⟨f, rfl⟩ := fuel_succ (Nat.le_of_succ_le_succ hf)
    rw [List.map_cons, List.cons_append, pRefArray_str hs, ih _ hl f (Nat.le_of_succ_le_succ hf), List.append_assoc]; rfl

theorem rtRefValue {v v' : R} {f : Nat} (r : List Tok) (h : expR res v = some v') (hf : (refToks v).length ≤ f) :
    pRefValue res f (refToks v ++ r) = .ok (v', r) := by
  cases v with
  | one s =>
    obtain ⟨s', hs, rfl⟩ := Option.map_eq_some_iff.1 h
    exact pRefValue_str (resO_some hs) f r
  | many l =>
    obtain ⟨l', hl, rfl⟩ := Option.map_eq_some_iff.1 h
    simp only [refToks, List.append_assoc, List.length_cons, List.length_append, List.length_map] at hf ⊢
    exact pRefValue_la (rtRefArray res [] r hl (by omega))

theorem rtRefs {p p' : List (String × R)} {f : Nat} (acc : List (String × R)) (r : List Tok)
    (h : expRefs res p = some p') (hf : (refsToks p).length + 1 ≤ f) :
    pRefsLoop res f acc (refsToks p ++ .rb :: r) = .ok (acc ++ p', r) := by
  obtain ⟨f, rfl⟩ := fuel_succ hf
  induction p generalizing p' acc f with
  | nil => cases h; rw [List.append_nil]; rfl
  | cons kv p ih =>
    obtain ⟨k1, v1, p1, hk, hv, hp, rfl⟩ := expRefs_cons_some h
    simp only [refsToks, List.cons_append, List.append_assoc, List.length_cons, List.length_append] at hf ⊢
    obtain ⟨f, rfl⟩ := fuel_succ (Nat.le_of_succ_le_succ hf)
    rw [pRefsLoop_str (rtRefValue res _ hv (by omega)) hk, ih _ hp f (by omega), List.append_assoc]; rfl

/-- an entity after its `{`. `hP` is `rtP props`, a hypothesis so that the lemma stands outside the recursion (the stream
loop in C15 uses it too). -/
theorem rtE {id : String} {del : Bool} {props : List (String × V)} {refs : List (String × R)} {v' : V} {f : Nat}
    (h : exp res (.ent id del props refs) = some v')
    (hP : ∀ p' f r, expP res props = some p' → (toksP props).length + 1 ≤ f →
      ∀ acc, pPropsLoop res f acc (toksP props ++ .rb :: r) = .ok (acc ++ p', r))
    (hf : (toks (.ent id del props refs)).length ≤ f) (r : List Tok) :
    ∃ ts, toks (.ent id del props refs) ++ r = .lb :: ts ∧ pEntity res f {} ts = .ok (v', r) := by
  obtain ⟨hid, i, p', r', hi, hp, hr, rfl⟩ := exp_ent_some h
  simp only [toks, List.length_append, List.length_cons, List.length_nil] at hf
  -- fuel: a unit per member (deleted, id, props, recorded, refs) and for `}`: six; `pProps` spends one more (`g + 2`), `pRefs` none
  obtain ⟨g, rfl⟩ : ∃ g, f = g + 6 := ⟨f - 6, by omega⟩
  refine ⟨_, by simp only [toks, List.cons_append, List.append_assoc, List.nil_append]; rfl, ?_⟩
  have hProps := hP p' (g + 2) (.str "recorded" :: .num "0" :: .str "refs" :: .lb :: (refsToks refs ++ .rb :: .rb :: r)) hp (by omega) []
  have hRefs := rtRefs res (f := g + 1) [] (.rb :: r) hr (by omega)
  simp only [pEntity_deleted, pEntity_id, hid, hi, pEntity_props, pProps, hProps, pEntity_recorded,
    pEntity_refs, pRefs, hRefs]
  rfl

/- The recursive arguments (`v`, `l`, `p`) are named: over the nested type `V` Lean does not guess them, and it finds no
measure for well-founded recursion through the `cases`. -/
mutual
theorem rtV (v v' : V) (f : Nat) (r : List Tok) (h : exp res v = some v') (hf : (toks v).length ≤ f) :
    pValue res (f + 1) (toks v ++ r) = .ok (some v', r)
    ∧ ∀ acc, pArray res (f + 1) acc (toks v ++ r) = pArray res f (acc ++ [v']) r := by
  cases v with
  | null => cases h
  | str _ | num _ | bool _ => cases h; exact ⟨rfl, fun _ => rfl⟩
  | arr l =>
    obtain ⟨l', hl, rfl⟩ := Option.map_eq_some_iff.1 h
    simp only [toks, List.append_assoc, List.length_cons, List.length_append] at hf ⊢
    exact value_of_array (rtL l l' f r hl (by omega) [])
  | ent id del props refs =>
    obtain ⟨ts, e, hE⟩ := rtE res h (rtP props) hf r
    rw [e]; exact value_of_entity hE
termination_by structural v

/-- the elements of an array, up to its `]`. -/
theorem rtL : ∀ (l l' : List V) (f : Nat) (r : List Tok), expL res l = some l' → (toksL l).length + 1 ≤ f →
    ∀ acc, pArray res f acc (toksL l ++ .ra :: r) = .ok (acc ++ l', r) := by
  intro l l' f r h hf acc
  obtain ⟨f, rfl⟩ := fuel_succ hf
  cases l with
  | nil => cases h; rw [List.append_nil]; rfl
  | cons v l =>
    obtain ⟨v1, l1, hv, hl, rfl⟩ := expL_cons_some h
    have := toks_pos v
    simp only [toksL, List.append_assoc, List.length_append] at hf ⊢
    rw [(rtV v v1 f _ hv (by omega)).2, rtL l l1 f r hl (by omega), List.append_assoc]; rfl
termination_by structural l => l

/-- the members of a properties object, up to its `}`; a null-valued member is dropped. -/
theorem rtP : ∀ (p p' : List (String × V)) (f : Nat) (r : List Tok), expP res p = some p' → (toksP p).length + 1 ≤ f →
    ∀ acc, pPropsLoop res f acc (toksP p ++ .rb :: r) = .ok (acc ++ p', r) := by
  intro p p' f r h hf acc
  obtain ⟨f, rfl⟩ := fuel_succ hf
  cases p with
  | nil => cases h; rw [List.append_nil]; rfl
  | cons kv p =>
    obtain ⟨k, v⟩ := kv
    simp only [toksP, List.cons_append, List.append_assoc, List.length_cons, List.length_append] at hf ⊢
    obtain ⟨f, rfl⟩ := fuel_succ (Nat.le_of_succ_le_succ hf)
    rcases expP_cons_some h with ⟨rfl, hp⟩ | ⟨k1, v1, p1, hk, hv, hp, rfl⟩
    · -- a null-valued member: `pValue` answers `none` and the loop goes on with nothing added
      show pPropsLoop res (f + 1) acc (toksP p ++ .rb :: r) = _
      exact rtP p p' (f + 1) r hp (by omega) acc
    · rw [pPropsLoop_str (rtV v v1 f _ hv (by omega)).1 hk, rtP p p1 (f + 1) r hp (by omega), List.append_assoc]; rfl
termination_by structural p => p
end

end Hub.Parser
