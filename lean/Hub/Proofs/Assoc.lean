import Hub.Model.Store
/-! Association lists as maps: an entry is determined by its key (any key function), `List.lookup` against membership,
`setAssoc`, and removal of a key by `filter`. -/
namespace Hub.Assoc
open Hub.Store

theorem eq_of_nodup_map {α γ : Type} {f : α → γ} {l : List α} (h : (l.map f).Nodup) {p q : α} (hp : p ∈ l) (hq : q ∈ l)
    (e : f p = f q) : p = q :=
  have hne : l.Pairwise fun a b => f a ≠ f b := List.pairwise_map.1 h
  List.Pairwise.forall_of_forall_of_flip (R := fun a b => f a = f b → a = b) (fun _ _ _ => rfl)
    (hne.imp fun h e => absurd e h) (hne.imp fun h e => absurd e.symm h) hp hq e

variable {κ β : Type} [BEq κ] [LawfulBEq κ]

theorem lookup_cons_ne {k k' : κ} {v' : β} {l : List (κ × β)} (h : k ≠ k') : ((k', v') :: l).lookup k = l.lookup k := by
  rw [List.lookup_cons, beq_false_of_ne h]

theorem mem_of_lookup {l : List (κ × β)} {k : κ} {v : β} (h : l.lookup k = some v) : (k, v) ∈ l := by
  obtain ⟨l₁, l₂, rfl, _⟩ := List.lookup_eq_some_iff.1 h
  simp

theorem lookup_of_mem_nodup : ∀ (l : List (κ × β)), (l.map (·.1)).Nodup → ∀ {k : κ} {v : β}, (k, v) ∈ l → l.lookup k = some v
  | (k', v') :: l, h, k, v, hm => by
    have ⟨hk', hl⟩ := List.nodup_cons.1 h
    rcases List.mem_cons.1 hm with heq | hm
    · cases heq; simp
    · rw [lookup_cons_ne fun e : k = k' => hk' (e ▸ List.mem_map_of_mem (f := (·.1)) hm)]
      exact lookup_of_mem_nodup l hl hm

theorem lookup_filter_ne (n x : κ) : ∀ l : List (κ × β),
    (l.filter (·.1 != n)).lookup x = if x == n then none else l.lookup x
  | [] => by simp
  | (k, v) :: l => by
    by_cases hk : k = n
    · by_cases hx : x = n
      · simp [hk, hx, lookup_filter_ne n n l]
      · simp [hk, lookup_filter_ne n x l, lookup_cons_ne hx]
    · simp only [List.filter_cons, bne_iff_ne, ne_eq, hk, not_false_eq_true, if_true, List.lookup_cons,
        lookup_filter_ne n x l]
      by_cases hx : x = k
      · simp [hx, hk]
      · simp [beq_false_of_ne hx]

theorem lookup_setAssoc (k : κ) (v : β) (x : κ) (l : List (κ × β)) :
    (setAssoc k v l).lookup x = if x == k then some v else l.lookup x := by
  fun_induction setAssoc k v l with
  | case1 => by_cases hx : x = k <;> simp [hx]
  | case2 k' v' rest h =>
    obtain rfl := eq_of_beq h
    by_cases hx : x = k'
    · simp [hx]
    · rw [lookup_cons_ne hx, lookup_cons_ne hx, if_neg (by simpa using hx)]
  | case3 k' v' rest h ih =>
    have hk : k' ≠ k := fun e => h (beq_iff_eq.2 e)
    by_cases hx : x = k'
    · simp [hx, hk]
    · rw [lookup_cons_ne hx, lookup_cons_ne hx, ih]

theorem lookup_setAssoc_self (k : κ) (v : β) (l : List (κ × β)) : (setAssoc k v l).lookup k = some v := by
  simp [lookup_setAssoc]

theorem lookup_setAssoc_ne (k : κ) (v : β) {x : κ} (h : x ≠ k) (l : List (κ × β)) :
    (setAssoc k v l).lookup x = l.lookup x := by
  simp [lookup_setAssoc, h]

theorem mem_keys_setAssoc (k : κ) (v : β) (x : κ) (l : List (κ × β)) :
    x ∈ (setAssoc k v l).map (·.1) ↔ x = k ∨ x ∈ l.map (·.1) := by
  fun_induction setAssoc k v l with
  | case1 => simp
  | case2 k' v' rest h => simp [eq_of_beq h]
  | case3 k' v' rest h ih => simp [ih, or_left_comm]

theorem setAssoc_keys_nodup {k : κ} {v : β} {l : List (κ × β)} (h : (l.map (·.1)).Nodup) :
    ((setAssoc k v l).map (·.1)).Nodup := by
  fun_induction setAssoc k v l with
  | case1 => simp
  | case2 k' v' rest hk => simpa [eq_of_beq hk] using h
  | case3 k' v' rest hk ih =>
    -- `k'` is neither `k` nor among the keys of `rest`
    have ⟨hk', hl⟩ := List.nodup_cons.1 h
    simp only [List.map_cons, List.nodup_cons, mem_keys_setAssoc, not_or]
    exact ⟨⟨fun e => hk (beq_iff_eq.2 e), hk'⟩, ih hl⟩

end Hub.Assoc
